import AC.TwoPtr
/-! C02 prototype: model of chain.go validation and its specification. -/
namespace P

abbrev Op := Nat × Nat

/-- `Chain.IsAscending` -/
def isAscending : Chain → Bool
  | [] => false
  | x :: xs => x == 1 && go x xs
where go : Int → List Int → Bool
  | _, [] => true
  | p, y :: ys => p < y && go y ys

/-- quadratic fallback of `Chain.Ops` -/
def quadOps (c : Chain) (k : Nat) : List Op :=
  (List.range k).flatMap fun i =>
    ((List.range k).filter fun j => i ≤ j && at' c i + at' c j == at' c k).map fun j => (i, j)

/-- `Chain.Ops(k)` -/
def ops (c : Chain) (k : Nat) : List Op :=
  if isAscending (c.take k) then twoPtr c (at' c k) 0 k else quadOps c k

/-- the specification: all pairs in lexicographic order -/
def opsSpec (c : Chain) (k : Nat) : List Op := quadOps c k

inductive VErr | empty | notOne | zero | dup | noOp (k : Nat) deriving Repr, DecidableEq

def hasDup : List Int → Bool
  | [] => false
  | x :: xs => xs.contains x || hasDup xs

def collect : List (Option Op) → Nat → Except VErr (List Op)
  | [], _ => .ok []
  | none :: _, k => .error (.noOp k)
  | some o :: r, k => match collect r (k+1) with
    | .ok p => .ok (o :: p)
    | .error e => .error e

def firstOps (c : Chain) : List (Option Op) :=
  (List.range (c.length - 1)).map fun k' => (ops c (k'+1)).head?

/-- `Chain.Program()` -/
def program (c : Chain) : Except VErr (List Op) :=
  if c.isEmpty then .error .empty
  else if at' c 0 != 1 then .error .notOne
  else if c.contains 0 then .error .zero
  else if hasDup c then .error .dup
  else collect (firstOps c) 1

def evaluate (p : List Op) : Chain :=
  p.foldl (fun c o => c ++ [at' c o.1 + at' c o.2]) [1]

/-- the property's definition of an addition chain -/
def IsChain (c : Chain) : Prop :=
  c ≠ [] ∧ at' c 0 = 1 ∧ (0 : Int) ∉ c ∧ c.Nodup ∧
  ∀ k, 0 < k → k < c.length → ∃ i j, i < k ∧ j < k ∧ at' c i + at' c j = at' c k

theorem lt_of_lt_head {z y : Int} {ys : List Int} (hy : (y :: ys).Pairwise (· < ·)) (hzy : z < y) :
    ∀ a ∈ y :: ys, z < a := by
  intro a ha
  rcases List.mem_cons.mp ha with rfl | ha
  · exact hzy
  · exact Int.lt_trans hzy (List.rel_of_pairwise_cons hy ha)

theorem isAscending_go_iff (xs : List Int) (p : Int) :
    isAscending.go p xs = true ↔ (p :: xs).Pairwise (· < ·) := by
  induction xs generalizing p with
  | nil => simp [isAscending.go]
  | cons y ys ih =>
    rw [isAscending.go, Bool.and_eq_true, decide_eq_true_eq, ih, List.pairwise_cons (a := p)]
    constructor
    · rintro ⟨hpy, hy⟩
      exact ⟨lt_of_lt_head hy hpy, hy⟩
    · rintro ⟨hp, hy⟩
      exact ⟨hp y List.mem_cons_self, hy⟩

theorem isAscending_iff (c : Chain) :
    isAscending c = true ↔ c.head? = some 1 ∧ c.Pairwise (· < ·) := by
  cases c with
  | nil => simp [isAscending]
  | cons x xs => simp [isAscending, isAscending_go_iff]

theorem strictAsc_of_isAscending (c : Chain) (k : Nat) (hk : k ≤ c.length)
    (h : isAscending (c.take k) = true) : StrictAsc c k := by
  intro i j hij hjk
  have := at'_lt_of_pairwise (c.take k) ((isAscending_iff _).1 h).2 i j hij
    (by rw [List.length_take, Nat.min_eq_left hk]; exact hjk)
  rwa [at'_take c k i (Nat.lt_trans hij hjk), at'_take c k j hjk] at this

theorem mem_quadOps (c : Chain) (k i j : Nat) :
    (i, j) ∈ quadOps c k ↔ i ≤ j ∧ j < k ∧ at' c i + at' c j = at' c k := by
  unfold quadOps
  simp only [List.mem_flatMap, List.mem_range, List.mem_map, List.mem_filter, Bool.and_eq_true,
    decide_eq_true_eq, beq_iff_eq, Prod.mk.injEq]
  constructor
  · rintro ⟨a, ha, b, ⟨hb, hab, hsum⟩, rfl, rfl⟩
    exact ⟨hab, hb, hsum⟩
  · rintro ⟨h1, h2, h3⟩
    exact ⟨i, Nat.lt_of_le_of_lt h1 h2, j, ⟨h2, h1, h3⟩, rfl, rfl⟩

theorem mem_ops (c : Chain) (k i j : Nat) (hk : k < c.length) :
    (i, j) ∈ ops c k ↔ i ≤ j ∧ j < k ∧ at' c i + at' c j = at' c k := by
  unfold ops
  split
  · rename_i hasc
    rw [twoPtr_mem c _ k (strictAsc_of_isAscending c k (Nat.le_of_lt hk) hasc) 0 k (Nat.le_refl _)]
    exact and_iff_right (Nat.zero_le i)
  · exact mem_quadOps c k i j

theorem ops_ne_nil_iff (c : Chain) (k : Nat) (hk : k < c.length) :
    ops c k ≠ [] ↔ ∃ i j, i < k ∧ j < k ∧ at' c i + at' c j = at' c k := by
  constructor
  · intro h
    obtain ⟨⟨i, j⟩, hm⟩ := List.exists_mem_of_ne_nil _ h
    obtain ⟨hij, hj, hs⟩ := (mem_ops c k i j hk).1 hm
    exact ⟨i, j, Nat.lt_of_le_of_lt hij hj, hj, hs⟩
  · rintro ⟨i, j, hi, hj, hs⟩
    rcases Nat.le_total i j with h | h
    · exact List.ne_nil_of_mem ((mem_ops c k i j hk).2 ⟨h, hj, hs⟩)
    · exact List.ne_nil_of_mem ((mem_ops c k j i hk).2 ⟨h, hi, by rw [Int.add_comm]; exact hs⟩)


theorem hasDup_false_iff : ∀ (l : List Int), hasDup l = false ↔ l.Nodup := by
  intro l
  induction l with
  | nil => simp [hasDup]
  | cons x xs ih => simp [hasDup, ih]

theorem collect_map_some (p : List Op) (k : Nat) : collect (p.map some) k = .ok p := by
  induction p generalizing k with
  | nil => rfl
  | cons o q ih => rw [List.map_cons, collect, ih]

theorem collect_get (l : List (Option Op)) (k : Nat) (p : List Op) (h : collect l k = .ok p) :
    l = p.map some := by
  fun_induction collect l k generalizing p with
  | case1 => cases h; rfl
  | case2 => cases h
  | case3 o r k q hq ih => cases h; rw [ih q hq]; rfl
  | case4 => cases h

theorem collect_eq_ok_iff (l : List (Option Op)) (k : Nat) (p : List Op) :
    collect l k = .ok p ↔ l = p.map some :=
  ⟨collect_get l k p, fun h => h ▸ collect_map_some p k⟩

theorem collect_ok_iff (l : List (Option Op)) (k : Nat) :
    (∃ p, collect l k = .ok p) ↔ ∀ o ∈ l, o ≠ none := by
  simp only [collect_eq_ok_iff]
  constructor
  · rintro ⟨p, rfl⟩ o ho
    obtain ⟨x, _, rfl⟩ := List.mem_map.mp ho
    exact Option.some_ne_none x
  · intro h
    induction l with
    | nil => exact ⟨[], rfl⟩
    | cons a r ih =>
      obtain ⟨q, rfl⟩ := ih fun o ho => h o (List.mem_cons_of_mem _ ho)
      cases a with
      | none => exact absurd rfl (h none List.mem_cons_self)
      | some o => exact ⟨o :: q, rfl⟩

theorem ite_error_eq_ok_iff {ε α : Type} {b : Prop} [Decidable b] {e : ε} {x : Except ε α} {a : α} :
    (if b then .error e else x) = .ok a ↔ ¬ b ∧ x = .ok a := by
  by_cases h : b <;> simp [h]

theorem program_ok_iff (c : Chain) (p : List Op) :
    program c = .ok p ↔
      c ≠ [] ∧ at' c 0 = 1 ∧ (0 : Int) ∉ c ∧ c.Nodup ∧ collect (firstOps c) 1 = .ok p := by
  rw [program, ite_error_eq_ok_iff, ite_error_eq_ok_iff, ite_error_eq_ok_iff, ite_error_eq_ok_iff,
    List.isEmpty_iff, bne_iff_ne, Decidable.not_not, List.contains_iff_mem, Bool.not_eq_true,
    hasDup_false_iff]

theorem length_firstOps (c : Chain) : (firstOps c).length = c.length - 1 := by
  rw [firstOps, List.length_map, List.length_range]

theorem getElem_firstOps (c : Chain) (k : Nat) (h : k < (firstOps c).length) :
    (firstOps c)[k] = (ops c (k + 1)).head? := by
  simp only [firstOps, List.getElem_map, List.getElem_range]

theorem mem_firstOps (c : Chain) (o : Option Op) :
    o ∈ firstOps c ↔ ∃ k, 0 < k ∧ k < c.length ∧ (ops c k).head? = o := by
  rw [firstOps, List.mem_map]
  constructor
  · rintro ⟨k', hk', rfl⟩
    exact ⟨k' + 1, Nat.succ_pos k', Nat.add_lt_of_lt_sub (List.mem_range.mp hk'), rfl⟩
  · rintro ⟨k, hk0, hkl, rfl⟩
    exact ⟨k - 1, List.mem_range.mpr (Nat.sub_lt_sub_right hk0 hkl), by rw [Nat.sub_add_cancel hk0]⟩

theorem validate_iff (c : Chain) : (∃ p, program c = .ok p) ↔ IsChain c := by
  have hops : (∃ p, collect (firstOps c) 1 = .ok p) ↔
      ∀ k, 0 < k → k < c.length → ∃ i j, i < k ∧ j < k ∧ at' c i + at' c j = at' c k := by
    rw [collect_ok_iff]
    constructor
    · intro h k hk0 hkl
      exact (ops_ne_nil_iff c k hkl).1 fun he =>
        h _ ((mem_firstOps c _).2 ⟨k, hk0, hkl, rfl⟩) (he ▸ rfl)
    · intro h o ho
      obtain ⟨k, hk0, hkl, rfl⟩ := (mem_firstOps c o).1 ho
      rw [Ne, List.head?_eq_none_iff]
      exact (ops_ne_nil_iff c k hkl).2 (h k hk0 hkl)
  simp only [program_ok_iff, IsChain, exists_and_left, hops]

theorem program_spec (c : Chain) (p : List Op) (h : program c = .ok p) :
    p.length + 1 = c.length ∧ ∀ k (hk : k < p.length), p[k] ∈ ops c (k + 1) := by
  obtain ⟨hne, _, _, _, hcol⟩ := (program_ok_iff c p).1 h
  have hget := collect_get _ _ _ hcol
  have hlen : c.length - 1 = p.length := by
    rw [← length_firstOps, hget, List.length_map]
  refine ⟨hlen ▸ Nat.sub_add_cancel (List.length_pos_iff.mpr hne), fun k hk => ?_⟩
  refine List.mem_of_mem_head? (Option.mem_def.mpr ?_)
  have := List.getElem_of_eq hget (i := k) (by rw [length_firstOps, hlen]; exact hk)
  rwa [List.getElem_map, getElem_firstOps] at this

theorem evaluate_append (p : List Op) (o : Op) :
    evaluate (p ++ [o]) = evaluate p ++ [at' (evaluate p) o.1 + at' (evaluate p) o.2] := by
  simp [evaluate, List.foldl_append]

theorem length_evaluate (p : List Op) : (evaluate p).length = p.length + 1 := by
  have key : ∀ c0 : Chain,
      (p.foldl (fun c o => c ++ [at' c o.1 + at' c o.2]) c0).length = c0.length + p.length := by
    induction p with
    | nil => intro c0; rfl
    | cons o r ih =>
      intro c0
      rw [List.foldl_cons, ih, List.length_append, List.length_singleton, List.length_cons,
        Nat.add_assoc, Nat.add_comm 1]
  rw [evaluate, key, Nat.add_comm]
  rfl

theorem evaluate_eq_of_steps (c : Chain) (p : List Op) (hlen : p.length + 1 = c.length)
    (h0 : at' c 0 = 1)
    (hstep : ∀ k (hk : k < p.length),
      p[k].1 ≤ k ∧ p[k].2 ≤ k ∧ at' c p[k].1 + at' c p[k].2 = at' c (k + 1)) :
    evaluate p = c := by
  have key : ∀ m, m ≤ p.length → evaluate (p.take m) = c.take (m + 1) := by
    intro m
    induction m with
    | zero => intro _; rw [take_succ_eq c 0 (hlen ▸ Nat.succ_pos _), h0]; rfl
    | succ m ih =>
      intro hm
      obtain ⟨h1, h2, hs⟩ := hstep m hm
      rw [List.take_succ_eq_append_getElem hm, evaluate_append, ih (Nat.le_of_succ_le hm),
        at'_take c _ _ (Nat.lt_succ_of_le h1), at'_take c _ _ (Nat.lt_succ_of_le h2), hs,
        ← take_succ_eq c (m + 1) (hlen ▸ Nat.succ_lt_succ hm)]
  have := key p.length (Nat.le_refl _)
  rwa [List.take_length, List.take_of_length_le (Nat.le_of_eq hlen.symm)] at this

theorem program_evaluate (c : Chain) (p : List Op) (h : program c = .ok p) : evaluate p = c := by
  obtain ⟨hlen, hmem⟩ := program_spec c p h
  refine evaluate_eq_of_steps c p hlen ((program_ok_iff c p).1 h).2.1 fun k hk => ?_
  obtain ⟨hij, hj, hs⟩ :=
    (mem_ops c (k + 1) p[k].1 p[k].2 (hlen ▸ Nat.succ_lt_succ hk)).1 (hmem k hk)
  exact ⟨Nat.le_trans hij (Nat.le_of_lt_succ hj), Nat.le_of_lt_succ hj, hs⟩

theorem program_get (c : Chain) (p : List Op) (h : program c = .ok p) :
    p.length + 1 = c.length ∧ ∀ k, k < p.length → ∃ o, p[k]? = some o ∧ o ∈ ops c (k + 1) :=
  ⟨(program_spec c p h).1, fun k hk => ⟨p[k], List.getElem?_eq_getElem hk, (program_spec c p h).2 k hk⟩⟩

theorem program_op (c : Chain) (p : List Op) (h : program c = .ok p) (k : Nat) (o : Op)
    (ho : p[k]? = some o) :
    k + 1 < c.length ∧ o.1 ≤ o.2 ∧ o.2 < k + 1 ∧ at' c o.1 + at' c o.2 = at' c (k + 1) := by
  obtain ⟨hlen, hget⟩ := program_get c p h
  have hk : k < p.length := (List.getElem?_eq_some_iff.1 ho).1
  obtain ⟨o', ho', hmem⟩ := hget k hk
  obtain rfl : o' = o := Option.some.inj (ho'.symm.trans ho)
  have hk1 : k + 1 < c.length := hlen ▸ Nat.succ_lt_succ hk
  exact ⟨hk1, (mem_ops c (k + 1) o'.1 o'.2 hk1).1 hmem⟩

end P
