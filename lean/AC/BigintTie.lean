import AC.Gen.BigintFns
import AC.GoAlg
/-! # Translator tie for internal/bigint (C19)

`AC/Gen/BigintFns.lean` is regenerated on every run from the Go source of `Zero, One, Equal, EqualInt64,
IsZero, IsNonZero, Clone, Pow2, IsPow2, Mask, Ones, MinMax, Extract` by the translator
`harness/cmd/extract/c19.go`. The translated functions are proved equal to the hand-written models the
correspondence run executes (`P.HX.maskI`, `P.HX.extractI`, `P.HX.isPow2`, `P.HX.minMax`), so the C19
theorems about those models are theorems about the code as it is written at the time of the run. -/
namespace AC.BigintTie
open AC.Gen.Bigint AC.BigPrim P.HX

theorem zero_eq : zero = 0 := rfl
theorem one_eq : one = 1 := rfl
theorem clone_eq (x : Int) : clone x = x := rfl

@[go_simp] theorem equal_eq (x y : Int) : equal x y = decide (x = y) := bCmp_beq_zero x y

theorem equal_iff (x y : Int) : equal x y = true ↔ x = y := by
  rw [equal_eq, decide_eq_true_eq]

@[go_simp] theorem equalInt64_eq (x y : Int) : equalInt64 x y = decide (x = y) := equal_eq x y

theorem equalInt64_iff (x y : Int) : equalInt64 x y = true ↔ x = y := equal_iff x y

@[go_simp] theorem isZero_iff (x : Int) : isZero x = true ↔ x = 0 :=
  beq_iff_eq.trans (bCmp_eq_zero_iff x 0)

theorem isZero_eq (x : Int) : isZero x = decide (x = 0) :=
  Bool.eq_iff_iff.2 ((isZero_iff x).trans decide_eq_true_iff.symm)

@[go_simp] theorem isNonZero_iff (x : Int) : isNonZero x = true ↔ x ≠ 0 := by
  unfold isNonZero
  rw [Bool.not_eq_true', ← Bool.not_eq_true, isZero_iff]

theorem pow2_eq (e : Nat) : pow2 e = (2 : Int) ^ e := Int.one_mul _

theorem mask_eq (l h : Nat) : mask l h = maskI l h := by
  unfold mask bSub maskI
  simp only [pow2_eq]

theorem ones_eq (n : Nat) : ones n = maskI 0 n := by
  unfold ones; exact mask_eq 0 n

theorem extract_eq (x : Int) (l h : Nat) : extract x l h = extractI x l h := by
  unfold extract bAnd bRsh extractI
  simp only [mask_eq]

theorem extract_natCast (x l h : Nat) (hlh : l ≤ h) :
    extract (x : Int) l h = ((x / 2 ^ l % 2 ^ (h - l) : Nat) : Int) := by
  rw [extract_eq, extractI_eq x l h hlh, P.Bits.extract_eq x l h hlh]

theorem isPow2_eq (x : Int) : AC.Gen.Bigint.isPow2 x = P.HX.isPow2 x := by
  have h : ((bitLen x.natAbs : Int) - 1).toNat = bitLen x.natAbs - 1 := Int.toNat_sub _ 1
  unfold AC.Gen.Bigint.isPow2 P.HX.isPow2 bBitLen
  simp only [Int.natCast_eq_zero, beq_iff_eq, equal_eq, pow2_eq, Int.natCast_pow, Int.cast_ofNat_Int, h]
  rfl

theorem minMax_eq (x y : Int) : AC.Gen.Bigint.minMax x y = P.HX.minMax x y := by
  unfold AC.Gen.Bigint.minMax P.HX.minMax
  simp only [decide_eq_true_eq, bCmp_lt_zero_iff]

end AC.BigintTie
