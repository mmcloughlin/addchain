import AC.RunsProof
import AC.DictSum
/-! Bounds on the elements emitted by `dictsumchain` (alg/dict/dict.go) and `RunsChain`
    (alg/dict/runs.go): every element is positive and at most the final / largest value, so that
    after sorting the last element of the returned chain is the target. -/

namespace P.DictSum

theorem le_mul_two_pow (cur k : Nat) : cur ≤ cur * 2 ^ k := by
  have : 1 ≤ 2 ^ k := Nat.one_le_two_pow
  exact Nat.le_mul_of_pos_right cur this

theorem doubles_bounds : ∀ (k cur : Nat), ∀ y ∈ doubles k cur, cur ≤ y ∧ y ≤ cur * 2 ^ k := by
  intro k
  induction k with
  | zero => intro cur y h; simp [doubles] at h
  | succ k ih =>
    intro cur y h
    simp only [doubles, List.mem_cons] at h
    have hp : cur * 2 ^ (k + 1) = 2 * cur * 2 ^ k := by
      rw [Nat.pow_succ, Nat.mul_comm (2 ^ k) 2, ← Nat.mul_assoc, Nat.mul_comm cur 2]
    rw [hp]
    have h2c : cur ≤ 2 * cur := Nat.le_mul_of_pos_left cur (by decide)
    rcases h with rfl | h
    · exact ⟨h2c, le_mul_two_pow (2 * cur) k⟩
    · obtain ⟨h1, h2⟩ := ih (2 * cur) y h
      exact ⟨Nat.le_trans h2c h1, h2⟩

theorem go_bounds : ∀ (ts : List (Nat × Nat)) (cur E : Nat),
    ∀ y ∈ go cur E ts, cur ≤ y ∧ y ≤ lastOr (go cur E ts) cur := by
  intro ts
  induction ts with
  | nil =>
    intro cur E y hy
    simp only [go] at hy ⊢
    rw [doubles_last]
    exact doubles_bounds E cur y hy
  | cons t r ih =>
    intro cur E y hy
    obtain ⟨d, e⟩ := t
    simp only [go] at hy ⊢
    rw [lastOr_append_mid]
    have hcd : cur ≤ cur * 2 ^ (E - e) + d :=
      Nat.le_trans (le_mul_two_pow cur (E - e)) (Nat.le_add_right _ d)
    have ih' := ih (cur * 2 ^ (E - e) + d) e
    -- the final value is at least the value after adding the dictionary entry
    have hlast : cur * 2 ^ (E - e) + d ≤
        lastOr (go (cur * 2 ^ (E - e) + d) e r) (cur * 2 ^ (E - e) + d) :=
      le_lastOr _ _ fun y hy => (ih' y hy).1
    simp only [List.mem_append, List.mem_singleton] at hy
    rcases hy with (hy | hy) | hy
    · obtain ⟨h1, h2⟩ := doubles_bounds (E - e) cur y hy
      exact ⟨h1, Nat.le_trans h2 (Nat.le_trans (Nat.le_add_right _ d) hlast)⟩
    · subst hy; exact ⟨hcd, hlast⟩
    · obtain ⟨h1, h2⟩ := ih' y hy
      exact ⟨Nat.le_trans hcd h1, h2⟩

/-- a sum-closed list that holds the start and every dictionary entry stays sum-closed when the
    emitted elements are added -/
theorem go_closed (s : List Nat) (ts : List (Nat × Nat)) (cur E : Nat) (hd : Desc E ts)
    (hs : ∀ x ∈ s, x = 1 ∨ ∃ a ∈ s, ∃ b ∈ s, a + b = x) (hcur : cur ∈ s) (hts : ∀ t ∈ ts, t.1 ∈ s) :
    ∀ x ∈ s ++ go cur E ts, x = 1 ∨ ∃ a ∈ s ++ go cur E ts, ∃ b ∈ s ++ go cur E ts, a + b = x := by
  intro x hx
  rcases List.mem_append.1 hx with h | h
  · exact (hs x h).imp_right fun ⟨a, ha, b, hb, hab⟩ =>
      ⟨a, List.mem_append_left _ ha, b, List.mem_append_left _ hb, hab⟩
  · right
    obtain ⟨x0, hx0, hform⟩ := (go_spec ts cur E hd).1 x h
    have hx0m : x0 ∈ s ++ go cur E ts := by
      rcases hx0 with rfl | h0
      · exact List.mem_append_left _ hcur
      · exact List.mem_append_right _ h0
    rcases hform with rfl | ⟨t, ht, rfl⟩
    · exact ⟨x0, hx0m, x0, hx0m, rfl⟩
    · exact ⟨x0, hx0m, t.1, List.mem_append_left _ (hts t ht), rfl⟩

-- `hcur` is not used: the bound holds from any `cur`; the hypothesis is that of `go_pos`
set_option linter.unusedVariables false in
theorem go_last_ge (ts : List (Nat × Nat)) (cur E : Nat) (hcur : 1 ≤ cur) :
    cur ≤ lastOr (go cur E ts) cur :=
  le_lastOr _ _ fun y hy => (go_bounds ts cur E y hy).1

theorem go_pos (ts : List (Nat × Nat)) (cur E : Nat) (hcur : 1 ≤ cur) :
    ∀ y ∈ go cur E ts, 1 ≤ y := fun y hy =>
  Nat.le_trans hcur (go_bounds ts cur E y hy).1

end P.DictSum

namespace P

theorem run_shift_le (b j : Nat) : onesI b * 2 ^ j ≤ onesI (j + b) := by
  rw [onesI_add j b]
  have := onesI_nonneg j
  omega

theorem le_mul_two_pow_int {a : Int} (ha : 0 ≤ a) (t : Nat) : a ≤ a * 2 ^ t := by
  have h1 : (1 : Int) ≤ 2 ^ t := Int.pow_pos (by decide)
  have := Int.mul_le_mul_of_nonneg_left h1 ha
  rwa [Int.mul_one] at this

theorem onesI_mono {a b : Nat} (h : a ≤ b) : onesI a ≤ onesI b := by
  obtain ⟨t, rfl⟩ := Nat.exists_eq_add_of_le' h
  exact Int.le_trans (le_mul_two_pow_int (onesI_nonneg a) t) (run_shift_le a t)

theorem rinv_bound (L : List Nat) (st : RS) (hI : RInv L st) (m : Nat)
    (hm : ∀ b ∈ L, b ≤ m) : ∀ x ∈ st.c, 1 ≤ x ∧ x ≤ onesI m := by
  intro x hx
  obtain ⟨b, j, hb, hj, rfl⟩ := (hI.mem x).1 hx
  refine ⟨Int.le_trans (onesI_pos b (hI.pos b hb)) (le_mul_two_pow_int (onesI_nonneg b) j),
    Int.le_trans (run_shift_le b j) (onesI_mono ?_)⟩
  exact Nat.le_trans (Nat.add_comm b j ▸ Nat.add_le_add_left hj b) (hm _ (hI.shift b hb))

-- `hsmall` is not used: success of `runsChainX` already implies it
set_option linter.unusedVariables false in
theorem runsChainX_bound (lc : Chain) (hc : IsChain lc) (hsmall : ∀ l ∈ lc, l < 2 ^ 64)
    (c : Chain) (h : runsChainX lc = .ok c) (m : Nat) (hm : ∀ l ∈ lc, l.toNat ≤ m) :
    ∀ x ∈ c, 1 ≤ x ∧ x ≤ onesI m := by
  obtain ⟨st, rfl, hI⟩ := runsChainX_rinv lc hc c h
  refine rinv_bound _ st hI m fun b hb => ?_
  obtain ⟨l, hl, rfl⟩ := List.mem_map.1 hb
  exact hm l hl

end P
