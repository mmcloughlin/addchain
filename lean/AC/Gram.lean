import AC.Peg
/-! Running the parser combinators of `AC/Peg.lean` on text of known shape (`Reads`, `Fails`):
what the token rules do on such text, and the rules of the expression grammar with the tree type,
its constructors and the literal rule left as variables, so that a fact about a rule holds for the
prototype grammar (`AC/Peg.lean`) and for the full one (`AC/PegFull.lean`) alike. -/
namespace P.Peg

@[simp] theorem bind_def (p : P α) (f : α → P β) (s : List Char) (e : Bool) :
    (p >>= f) s e = match p s e with
      | (none, e') => (none, e')
      | (some (a, s'), e') => f a s' e' := rfl
@[simp] theorem pure_def (a : α) (s : List Char) (e : Bool) : (pure a : P α) s e = (some (a, s), e) := rfl

theorem bind_assoc' (p : P α) (f : α → P β) (g : β → P γ) (s : List Char) (e : Bool) :
    (p >>= fun a => f a >>= g) s e = ((p >>= f) >>= g) s e := by
  simp only [bind_def]
  rcases p s e with ⟨_ | ⟨a, s'⟩, e'⟩ <;> rfl

/-- `p` reads `a` off the front of `s`, leaves `s'` and does not touch the sticky flag.
    A structure, so that unification compares texts and never unfolds the parsers. -/
structure Reads (p : P α) (s : List Char) (a : α) (s' : List Char) : Prop where
  run : ∀ e, p s e = (some (a, s'), e)
structure Fails (p : P α) (s : List Char) : Prop where
  run : ∀ e, p s e = (none, e)

section
variable {α β : Type} {p q : P α} {f : α → P β} {s s' s'' : List Char} {a : α} {b : β}

theorem Reads.bind (h : Reads p s a s') (h' : Reads (f a) s' b s'') : Reads (p >>= f) s b s'' :=
  ⟨fun e => by rw [bind_def, h.run e]; exact h'.run e⟩
theorem Reads.bind_fails (h : Reads p s a s') (h' : Fails (f a) s') : Fails (p >>= f) s :=
  ⟨fun e => by rw [bind_def, h.run e]; exact h'.run e⟩
theorem Fails.bind (h : Fails p s) : Fails (p >>= f) s := ⟨fun e => by rw [bind_def, h.run e]⟩
theorem reads_pure (a : α) (s : List Char) : Reads (pure a : P α) s a s := ⟨fun _ => rfl⟩

theorem Reads.orElse (h : Reads p s a s') : Reads (por p q) s a s' :=
  ⟨fun e => by simp only [por, h.run e]⟩
theorem Fails.orElse (h : Fails p s) (h' : Reads q s a s') : Reads (por p q) s a s' :=
  ⟨fun e => by simp only [por, h.run e, h'.run e]⟩
theorem Fails.orElse_fails (h : Fails p s) (h' : Fails q s) : Fails (por p q) s :=
  ⟨fun e => by simp only [por, h.run e, h'.run e]⟩
end

theorem isWs_cases {c : Char} (h : isWs c = true) : c = ' ' ∨ c = '\t' ∨ c = '\r' := by
  simpa [isWs, or_assoc] using h

theorem isIdChar_of_isDigit {c : Char} (h : c.isDigit = true) : isIdChar c = true := by
  simp [isIdChar, Char.isAlphanum, h]

theorem isIdChar_of_isIdStart {c : Char} (h : isIdStart c = true) : isIdChar c = true := by
  simp only [isIdStart, Bool.or_eq_true] at h
  simp only [isIdChar, Char.isAlphanum, Bool.or_eq_true]
  exact h.imp Or.inl id

theorem not_isWs_of_isIdChar {c : Char} (h : isIdChar c = true) : isWs c = false := by
  cases hw : isWs c with
  | false => rfl
  | true => rcases isWs_cases hw with rfl | rfl | rfl <;> exact absurd h (by decide)

theorem ne_of_class {p : Char → Bool} {c d : Char} (hc : p c = true) (hd : p d = false) : c ≠ d :=
  fun h => by rw [h, hd] at hc; cases hc

def dropWs (r : List Char) : List Char := r.dropWhile isWs

theorem dropWs_cons {c : Char} (h : isWs c = false) (r : List Char) : dropWs (c :: r) = c :: r := by
  simp [dropWs, List.dropWhile, h]
theorem dropWs_blank (r : List Char) : dropWs (' ' :: r) = dropWs r := rfl

theorem dropWs_plus (rest : List Char) : dropWs (' ' :: '+' :: rest) = '+' :: rest :=
  dropWs_cons (c := '+') (by decide) rest

theorem dropWs_idem (r : List Char) : dropWs (dropWs r) = dropWs r := by
  induction r with
  | nil => rfl
  | cons a t ih =>
    cases h : isWs a with
    | true => simpa [dropWs, List.dropWhile, h] using ih
    | false => rw [dropWs_cons h, dropWs_cons h]

theorem reads_ws (s : List Char) : Reads ws s () (dropWs s) := ⟨fun _ => rfl⟩
theorem reads_ws_of {s s' : List Char} (h : dropWs s = s') : Reads ws s () s' := h ▸ reads_ws s

theorem reads_lit (l r : List Char) : Reads (lit l) (l ++ r) () r := ⟨fun e => by simp [lit]⟩
/-- for one character; matching `['c'] ++ ?r` against a text `c :: (natStr n ++ …)` would make the
    unifier unfold `natStr` -/
theorem reads_char (c : Char) (r : List Char) : Reads (lit [c]) (c :: r) () r := reads_lit [c] r
theorem fails_lit {l s : List Char} (h : ¬ (l.isPrefixOf s = true)) : Fails (lit l) s :=
  ⟨fun e => by simp [lit, h]⟩
theorem fails_lit_head {c d : Char} (h : c ≠ d) (l r : List Char) : Fails (lit (c :: l)) (d :: r) :=
  fails_lit (by simp [List.isPrefixOf, h])
theorem fails_lit_nil (c : Char) (l : List Char) : Fails (lit (c :: l)) [] :=
  fails_lit (by simp [List.isPrefixOf])

def ValidIdent (s : List Char) : Prop :=
  ∃ c cs, s = c :: cs ∧ isIdStart c = true ∧ ∀ x ∈ cs, isIdChar x = true
def EndTok (r : List Char) : Prop := ∀ c cs, r = c :: cs → isIdChar c = false

theorem endTok_cons {c : Char} {r : List Char} (h : isIdChar c = false) : EndTok (c :: r) := by
  intro c' cs h'; cases h'; exact h
theorem endTok_nil : EndTok [] := fun _ _ h => by cases h

theorem takeWhile_append_of_all {p : Char → Bool} (cs r : List Char) (h : ∀ x ∈ cs, p x = true)
    (hr : ∀ c t, r = c :: t → p c = false) : (cs ++ r).takeWhile p = cs ∧ (cs ++ r).dropWhile p = r := by
  induction cs with
  | nil =>
    cases r with
    | nil => simp
    | cons c t => simp [hr c t rfl]
  | cons a cs ih =>
    have ha := h a (by simp)
    have := ih (fun x hx => h x (by simp [hx]))
    simp [ha, this]

theorem reads_ident {s r : List Char} (hs : ValidIdent s) (hr : EndTok r) : Reads ident (s ++ r) s r := by
  obtain ⟨c, cs, rfl, hc, hcs⟩ := hs
  have := takeWhile_append_of_all (p := isIdChar) cs r hcs hr
  exact ⟨fun e => by simp [ident, hc, this]⟩

theorem fails_ident_cons {c : Char} (h : isIdStart c = false) (r : List Char) : Fails ident (c :: r) :=
  ⟨fun e => by simp [ident, h]⟩
theorem fails_ident_nil : Fails ident [] := ⟨fun _ => rfl⟩

/-- what the text of an expression can start with -/
def GoodHead (c : Char) : Prop := c = '1' ∨ c = '[' ∨ c = '2' ∨ c = '(' ∨ isIdStart c = true

theorem GoodHead.of_isIdStart {c : Char} (h : isIdStart c = true) : GoodHead c :=
  Or.inr (Or.inr (Or.inr (Or.inr h)))

theorem goodHead_not_ws {c : Char} (h : GoodHead c) : isWs c = false ∧ c ≠ '=' := by
  rcases h with rfl | rfl | rfl | rfl | h
  · decide
  · decide
  · decide
  · decide
  · exact ⟨not_isWs_of_isIdChar (isIdChar_of_isIdStart h), ne_of_class h (by decide)⟩

theorem natStr_eq (n : Nat) : natStr n = Nat.toDigits 10 n := by
  simp [natStr, Nat.toList_repr, Nat.toString_eq_repr]

theorem digitsVal_toDigits (n : Nat) : digitsVal (Nat.toDigits 10 n) = n := by
  have h := @Nat.ofDigitChars_ten_toDigits n
  -- `digitsVal ds` unfolds to `Nat.ofDigitChars 10 ds 0`; with the digit list generalised the final `rfl` checks
  -- only that, and does not evaluate `Nat.toDigits`
  revert h
  generalize Nat.toDigits 10 n = ds
  intro h
  rw [← h]
  rfl

theorem natStr_isDigit {n : Nat} {c : Char} (h : c ∈ natStr n) : c.isDigit = true :=
  Nat.isDigit_of_mem_toDigits (by omega) (by omega) (natStr_eq n ▸ h)

theorem toDigits_head_ne_zero (n : Nat) : 0 < n → ∀ c t, Nat.toDigits 10 n = c :: t → c ≠ '0' := by
  induction n using Nat.strongRecOn with
  | _ n ih =>
    intro hn c t h
    by_cases h10 : n < 10
    · rw [Nat.toDigits_of_lt_base h10] at h
      cases h
      exact fun h0 => Nat.ne_of_gt hn (Nat.digitChar_eq_zero.1 h0)
    · have h10 : 10 ≤ n := Nat.le_of_not_lt h10
      rw [Nat.toDigits_of_base_le (by decide) h10] at h
      cases hd : Nat.toDigits 10 (n / 10) with
      | nil => exact absurd hd Nat.toDigits_ne_nil
      | cons c' t' =>
        rw [hd] at h
        cases h
        exact ih (n / 10) (Nat.div_lt_self hn (by decide)) (Nat.div_pos h10 (by decide)) c t' hd

theorem natStr_head (n : Nat) :
    ∃ c t, natStr n = c :: t ∧ c.isDigit = true ∧ (c = '0' → n = 0 ∧ t = []) := by
  cases hd : natStr n with
  | nil => exact absurd (natStr_eq n ▸ hd) Nat.toDigits_ne_nil
  | cons c t =>
    refine ⟨c, t, rfl, natStr_isDigit (hd ▸ List.mem_cons_self), fun hc => ?_⟩
    cases Nat.eq_zero_or_pos n with
    | inl h0 => subst h0; cases hd; exact ⟨rfl, rfl⟩
    | inr hp => exact absurd hc (toDigits_head_ne_zero n hp c t (natStr_eq n ▸ hd))

theorem dropWs_natStr (n : Nat) (r : List Char) : dropWs (natStr n ++ r) = natStr n ++ r := by
  obtain ⟨c, t, h, hc, _⟩ := natStr_head n
  rw [h]
  exact dropWs_cons (not_isWs_of_isIdChar (isIdChar_of_isDigit hc)) _

theorem reads_uintLit {n : Nat} {r : List Char} (hn : n < 2 ^ 64) (hr : EndTok r) :
    Reads uintLit (natStr n ++ r) n r := by
  have hr' : ∀ c t, r = c :: t → Char.isDigit c = false := fun c t h => by
    cases hd : c.isDigit with
    | false => rfl
    | true => have := hr c t h; rw [isIdChar_of_isDigit hd] at this; cases this
  obtain ⟨htake, hdrop⟩ := takeWhile_append_of_all (natStr n) r (fun _ => natStr_isDigit) hr'
  obtain ⟨c, t, hs, _, hz⟩ := natStr_head n
  have hbad : ((decide ((natStr n).length > 1) && decide ((natStr n).head! = '0')) || decide (n ≥ 2 ^ 64)) = false := by
    rw [hs, decide_eq_false (Nat.not_le.2 hn), Bool.or_false]
    by_cases hc : c = '0'
    · rw [(hz hc).2]; rfl
    · show (_ && decide (c = '0')) = false
      rw [decide_eq_false hc, Bool.and_false]
  refine ⟨fun e => ?_⟩
  unfold uintLit
  simp only [htake, hdrop]
  rw [natStr_eq, digitsVal_toDigits, ← natStr_eq, hbad, hs]
  simp

theorem plus_toList : " + ".toList = [' ', '+', ' '] := by decide
theorem shl_toList : " << ".toList = [' ', '<', '<', ' '] := by decide
theorem twice_toList : "2*".toList = ['2', '*'] := by decide
theorem dbl_toList : "dbl".toList = ['d', 'b', 'l'] := by decide
theorem dbl_isIdChar : ∀ c ∈ "dbl".toList, isIdChar c = true := by decide

def NoShiftOp (r : List Char) : Prop :=
  ¬ ("<<".toList.isPrefixOf (dropWs r) = true) ∧ ¬ ("shl".toList.isPrefixOf (dropWs r) = true)
def NoAddOp (r : List Char) : Prop :=
  ¬ (['+'].isPrefixOf (dropWs r) = true) ∧ ¬ ("add".toList.isPrefixOf (dropWs r) = true)

theorem fails_shiftOp {r : List Char} (h : NoShiftOp r) : Fails shiftOp (dropWs r) :=
  (fails_lit h.1).orElse_fails (fails_lit h.2)
theorem reads_shiftOp (r : List Char) : Reads shiftOp ('<' :: '<' :: r) () r :=
  (reads_lit "<<".toList r).orElse
theorem fails_addOp {r : List Char} (h : NoAddOp r) : Fails addOp (dropWs r) :=
  (fails_lit h.1).orElse_fails (fails_lit h.2)
theorem reads_addOp (r : List Char) : Reads addOp ('+' :: r) () r := (reads_char '+' r).orElse

theorem reads_doubleOp (r : List Char) : Reads doubleOp ('2' :: '*' :: r) () r := by
  apply Reads.orElse
  apply (reads_char '2' _).bind
  apply (reads_ws_of (dropWs_cons (by decide) r)).bind
  exact reads_char '*' r

theorem reads_doubleOp_dbl (r : List Char) : Reads doubleOp ('d' :: 'b' :: 'l' :: r) () r :=
  (fails_lit_head (by decide) _ _).bind.orElse (reads_lit "dbl".toList r)
theorem fails_doubleOp {c : Char} {r : List Char} (h2 : c ≠ '2')
    (hd : ¬ ("dbl".toList.isPrefixOf (c :: r) = true)) : Fails doubleOp (c :: r) :=
  (fails_lit_head (Ne.symm h2) _ _).bind.orElse_fails (fails_lit hd)

theorem fails_doubleOp_head {c : Char} (h2 : c ≠ '2') (hd : c ≠ 'd') (r : List Char) : Fails doubleOp (c :: r) :=
  fails_doubleOp h2 (by simp [List.isPrefixOf, hd.symm])

theorem noOp_of_head {c : Char} (r : List Char) (hw : isWs c = false)
    (hc : c ≠ '<' ∧ c ≠ 's' ∧ c ≠ '+' ∧ c ≠ 'a') : NoShiftOp (c :: r) ∧ NoAddOp (c :: r) := by
  obtain ⟨h1, h2, h3, h4⟩ := hc
  rw [NoShiftOp, NoAddOp, dropWs_cons hw]
  simp [List.isPrefixOf, Ne.symm h1, Ne.symm h2, Ne.symm h3, Ne.symm h4]

theorem noAddOp_of_dropWs {r r' : List Char} (h : dropWs r' = dropWs r) (hr : NoAddOp r) : NoAddOp r' := by
  unfold NoAddOp at *; rw [h]; exact hr

theorem noShiftOp_plus (rest : List Char) : NoShiftOp (' ' :: '+' :: rest) := by
  rw [NoShiftOp, dropWs_blank, dropWs_cons (by decide)]
  simp [List.isPrefixOf]

theorem prefix_append_endTok (l s r : List Char) (hl : ∀ c ∈ l, isIdChar c = true) (hr : EndTok r)
    (h : l.isPrefixOf (s ++ r) = true) : l.isPrefixOf s = true := by
  induction l generalizing s with
  | nil => simp
  | cons a l ih =>
    cases s with
    | nil =>
      cases r with
      | nil => simp at h
      | cons b r' =>
        simp only [List.nil_append, List.isPrefixOf, Bool.and_eq_true, beq_iff_eq] at h
        have hb := hr b r' rfl
        rw [← h.1, hl a (by simp)] at hb
        cases hb
    | cons b s' =>
      simp only [List.cons_append, List.isPrefixOf, Bool.and_eq_true] at h ⊢
      exact ⟨h.1, ih s' (fun c hc => hl c (by simp [hc])) h.2⟩

/-! The rules of the expression grammar over any tree type.
`E` is the tree type, `one`/`index`/`name`/`mkS`/`mkD` its constructors and `num` the rule for
unsigned literals. -/
namespace Gram
variable {E : Type}

/-- `ParenExpr <- '(' _ e:Expr _ ')'` -/
def paren (rec : P E) : P E := do lit ['(']; ws; let x ← rec; ws; lit [')']; pure x
/-- `Operand <- One / Index / Identifier` -/
def operand (one : E) (index : Nat → E) (name : List Char → E) (num : P Nat) : P E :=
  por (do lit ['1']; pure one)
    (por (do lit ['[']; ws; let i ← num; ws; lit [']']; pure (index i)) (do let n ← ident; pure (name n)))
/-- `BaseExpr <- ParenExpr / Operand` -/
def base (atom rec : P E) : P E := por (paren rec) atom
/-- the three alternatives of `ShiftExpr` over a base rule `b` -/
def shift1 (mkS : E → Nat → E) (num : P Nat) (b : P E) : P E := do
  ws; let x ← b; ws; shiftOp; ws; let s ← num; ws; pure (mkS x s)
def shift2 (mkD : E → E) (b : P E) : P E := do ws; doubleOp; ws; let x ← b; pure (mkD x)
def shiftE (mkS : E → Nat → E) (mkD : E → E) (num : P Nat) (b : P E) : P E :=
  por (shift1 mkS num b) (por (shift2 mkD b) b)
/-- `_ AddOperator _ ShiftExpr` -/
def addStep (sh : P E) : P E := do ws; addOp; ws; sh

section operand
variable {one : E} {index : Nat → E} {name : List Char → E} {num : P Nat}

theorem reads_operand_one (r : List Char) : Reads (operand one index name num) ('1' :: r) one r := by
  apply Reads.orElse
  apply (reads_char '1' r).bind
  exact reads_pure _ _

theorem reads_operand_index {k : Nat} {r : List Char} (h : Reads num (natStr k ++ ']' :: r) k (']' :: r)) :
    Reads (operand one index name num) ('[' :: (natStr k ++ ']' :: r)) (index k) r := by
  apply (fails_lit_head (by decide) _ _).bind.orElse
  apply Reads.orElse
  apply (reads_char '[' _).bind
  apply (reads_ws_of (dropWs_natStr k _)).bind
  apply h.bind
  apply (reads_ws_of (dropWs_cons (by decide) r)).bind
  apply (reads_char ']' r).bind
  exact reads_pure _ _

theorem reads_operand_ident {s r : List Char} (hs : ValidIdent s) (hr : EndTok r) :
    Reads (operand one index name num) (s ++ r) (name s) r := by
  have hid := reads_ident hs hr
  obtain ⟨c, cs, rfl, hc, _⟩ := hs
  apply (fails_lit_head (ne_of_class hc (by decide)).symm _ _).bind.orElse
  apply (fails_lit_head (ne_of_class hc (by decide)).symm _ _).bind.orElse
  exact hid.bind (reads_pure _ _)

theorem fails_operand_cons {c : Char} (h1 : c ≠ '1') (hb : c ≠ '[') (hi : isIdStart c = false) (r : List Char) :
    Fails (operand one index name num) (c :: r) :=
  (fails_lit_head h1.symm _ _).bind.orElse_fails
    ((fails_lit_head hb.symm _ _).bind.orElse_fails (fails_ident_cons hi r).bind)

theorem fails_operand_nil : Fails (operand one index name num) [] :=
  (fails_lit_nil _ _).bind.orElse_fails ((fails_lit_nil _ _).bind.orElse_fails fails_ident_nil.bind)
end operand

section base
variable {atom rec : P E}

theorem reads_paren {b r : List Char} {x : E} (hw : dropWs (b ++ ')' :: r) = b ++ ')' :: r)
    (h : Reads rec (b ++ ')' :: r) x (')' :: r)) : Reads (paren rec) ('(' :: (b ++ ')' :: r)) x r := by
  apply (reads_char '(' _).bind
  apply (reads_ws_of hw).bind
  apply h.bind
  apply (reads_ws_of (dropWs_cons (by decide) r)).bind
  apply (reads_char ')' r).bind
  exact reads_pure _ _

theorem reads_base_paren {b r : List Char} {x : E} (hw : dropWs (b ++ ')' :: r) = b ++ ')' :: r)
    (h : Reads rec (b ++ ')' :: r) x (')' :: r)) : Reads (base atom rec) ('(' :: (b ++ ')' :: r)) x r :=
  (reads_paren hw h).orElse

theorem reads_base_atom {c : Char} {s r : List Char} {x : E} (hc : c ≠ '(') (h : Reads atom (c :: s) x r) :
    Reads (base atom rec) (c :: s) x r :=
  (fails_lit_head hc.symm _ _).bind.orElse h

variable {one : E} {index : Nat → E} {name : List Char → E} {num : P Nat}

theorem reads_base_one (r : List Char) : Reads (base (operand one index name num) rec) ('1' :: r) one r :=
  reads_base_atom (by decide) (reads_operand_one r)

theorem reads_base_index {k : Nat} {r : List Char} (h : Reads num (natStr k ++ ']' :: r) k (']' :: r)) :
    Reads (base (operand one index name num) rec) ('[' :: (natStr k ++ ']' :: r)) (index k) r :=
  reads_base_atom (by decide) (reads_operand_index h)

theorem reads_base_ident {s r : List Char} (hs : ValidIdent s) (hr : EndTok r) :
    Reads (base (operand one index name num) rec) (s ++ r) (name s) r := by
  have h := reads_operand_ident (one := one) (index := index) (name := name) (num := num) hs hr
  obtain ⟨c, cs, rfl, hc, _⟩ := hs
  exact reads_base_atom (ne_of_class hc (by decide)) h

theorem fails_base_cons {c : Char} {s : List Char} (hc : c ≠ '(') (h : Fails atom (c :: s)) :
    Fails (base atom rec) (c :: s) :=
  (fails_lit_head hc.symm _ _).bind.orElse_fails h

theorem fails_base_nil (h : Fails atom []) : Fails (base atom rec) [] :=
  (fails_lit_nil _ _).bind.orElse_fails h
end base

section shift
variable {mkS : E → Nat → E} {mkD : E → E} {num : P Nat} {b : P E} {s r : List Char} {x : E}

theorem fails_shift1 (hw : dropWs s = s) (hb : Reads b s x r) (hns : NoShiftOp r) :
    Fails (shift1 mkS num b) s := by
  apply (reads_ws_of hw).bind_fails
  apply hb.bind_fails
  apply (reads_ws r).bind_fails
  exact (fails_shiftOp hns).bind

theorem fails_shift1_of_base (hw : dropWs s = s) (hb : Fails b s) : Fails (shift1 mkS num b) s :=
  (reads_ws_of hw).bind_fails hb.bind

theorem reads_shift1 {k : Nat} (hw : dropWs s = s)
    (hb : Reads b s x (' ' :: '<' :: '<' :: ' ' :: (natStr k ++ r))) (hk : Reads num (natStr k ++ r) k r) :
    Reads (shift1 mkS num b) s (mkS x k) (dropWs r) := by
  apply (reads_ws_of hw).bind
  apply hb.bind
  apply (reads_ws_of ((dropWs_blank _).trans (dropWs_cons (by decide) _))).bind
  apply (reads_shiftOp _).bind
  apply (reads_ws_of ((dropWs_blank _).trans (dropWs_natStr k r))).bind
  apply hk.bind
  apply (reads_ws r).bind
  exact reads_pure _ _

theorem fails_shift2 (hw : dropWs s = s) (h : Fails doubleOp s) : Fails (shift2 mkD b) s :=
  (reads_ws_of hw).bind_fails h.bind

theorem fails_shift2_dbl {t : List Char} (hb : Fails b (dropWs t)) :
    Fails (shift2 mkD b) ('d' :: 'b' :: 'l' :: t) := by
  apply (reads_ws_of (dropWs_cons (by decide) _)).bind_fails
  apply (reads_doubleOp_dbl t).bind_fails
  apply (reads_ws t).bind_fails
  exact hb.bind

theorem reads_shift2 (hw : dropWs s = s) (hb : Reads b s x r) :
    Reads (shift2 mkD b) ('2' :: '*' :: s) (mkD x) r := by
  apply (reads_ws_of (dropWs_cons (by decide) _)).bind
  apply (reads_doubleOp s).bind
  apply (reads_ws_of hw).bind
  apply hb.bind
  exact reads_pure _ _

theorem reads_shiftE_base (hw : dropWs s = s) (hb : Reads b s x r) (hns : NoShiftOp r)
    (h2 : Fails (shift2 mkD b) s) : Reads (shiftE mkS mkD num b) s x r :=
  (fails_shift1 hw hb hns).orElse (h2.orElse hb)

/-- no base expression starts with `2`, so on `2*…` only the doubling alternative applies -/
theorem reads_shiftE_double {one : E} {index : Nat → E} {name : List Char → E} {rec : P E}
    (hw : dropWs s = s) (hb : Reads (base (operand one index name num) rec) s x r) :
    Reads (shiftE mkS mkD num (base (operand one index name num) rec)) ('2' :: '*' :: s) (mkD x) r :=
  (fails_shift1_of_base (dropWs_cons (by decide) _)
    (fails_base_cons (by decide) (fails_operand_cons (by decide) (by decide) (by decide) _))).orElse
    (reads_shift2 hw hb).orElse

theorem reads_shiftE_shift {k : Nat} (hw : dropWs s = s)
    (hb : Reads b s x (' ' :: '<' :: '<' :: ' ' :: (natStr k ++ r))) (hk : Reads num (natStr k ++ r) k r) :
    Reads (shiftE mkS mkD num b) s (mkS x k) (dropWs r) :=
  (reads_shift1 hw hb hk).orElse
end shift

theorem fails_addStep {sh : P E} {r : List Char} (h : NoAddOp r) : Fails (addStep sh) r :=
  (reads_ws r).bind_fails (fails_addOp h).bind

theorem reads_addStep {sh : P E} {s w r : List Char} {y : E} (hs : dropWs s = '+' :: ' ' :: w)
    (hw : dropWs w = w) (h : Reads sh w y r) : Reads (addStep sh) s y r := by
  apply (reads_ws_of hs).bind
  apply (reads_addOp _).bind
  apply (reads_ws_of ((dropWs_blank w).trans hw)).bind
  exact h

/-- `loop` is `step*` folding the results into an accumulator from the left with `g`; its first
    argument is fuel that bounds the number of turns -/
structure IsStar {α β : Type} (step : P β) (g : α → β → α) (loop : Nat → α → P α) : Prop where
  zero : ∀ acc, loop 0 acc = ppure acc
  more : ∀ {n acc s e y s' e'}, step s e = (some (y, s'), e') → loop (n+1) acc s e = loop n (g acc y) s' e'
  done : ∀ {n acc s e e'}, step s e = (none, e') → loop (n+1) acc s e = (some (acc, s), e')

section star
variable {α β : Type} {step : P β} {g : α → β → α} {loop : Nat → α → P α} {s s' : List Char} {y : β}

theorem star_stop (hl : IsStar step g loop) (h : Fails step s) (n : Nat) (acc : α) :
    Reads (loop n acc) s acc s :=
  ⟨fun e => by
    cases n with
    | zero => rw [hl.zero]; rfl
    | succ n => exact hl.done (h.run e)⟩

theorem star_turn (hl : IsStar step g loop) (h : Reads step s y s') (n : Nat) (acc : α) (e : Bool) :
    loop (n+1) acc s e = loop n (g acc y) s' e := hl.more (h.run e)
end star

/-- `AddExpr <- _ x:ShiftExpr rest:(…)* _` once the loop `rest` has been run on the text -/
theorem run_addE {sh : P E} {loop : Nat → E → P E} {s s' : List Char} {t : E} {e : Bool}
    (hw : dropWs s = s) (h : (sh >>= loop s.length) s e = (some (t, s'), e)) :
    (do ws; let x ← sh; let r ← loop s.length x; ws; pure r : P E) s e = (some (t, dropWs s'), e) := by
  rw [bind_def, (reads_ws_of hw).run e]
  show (sh >>= fun x => loop s.length x >>= fun r => ws >>= fun _ => pure r) s e = _
  rw [bind_assoc', bind_def, h]
  rfl

end Gram

end P.Peg
