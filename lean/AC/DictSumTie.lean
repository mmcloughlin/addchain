import AC.ProgramTie
import AC.BigintTie
import AC.DictSum
import AC.GoAlg
/-! # The translated `dictsumchain` equals the model (C01 translator tie)

`dictdictsumchain` of `AC/Gen/ProgramFns.lean` is regenerated from alg/dict/dict.go on every run. The model
is `P.DictSum.dictsumchain` (over the sum listed from the highest exponent down), which `C01_dictsum` and
the assembly theorems are stated over. No ordering hypothesis is needed: both sides use truncated
subtraction for the number of doublings. -/
namespace AC.DictSumTie
open AC.Gen.Program AC.GoPrim AC.BigPrim P.DictSum

def toG (p : Nat × Nat) : GTerm := ⟨(p.1 : Int), p.2⟩
def G (l : List (Nat × Nat)) : List GTerm := l.map toG
def I (l : List Nat) : List Int := l.map fun (n : Nat) => (n : Int)

theorem I_append (a b : List Nat) : I (a ++ b) = I a ++ I b := by simp [I]

/-- One term of the sum costs the model what one round of `loop1` appends: the doublings down to the term's
    exponent, then the sum with its dictionary entry. -/
theorem go_cons (cur E : Nat) (t : Nat × Nat) (r : List (Nat × Nat)) :
    go cur E (t :: r) = doubles (E - t.2) cur ++ [cur * 2 ^ (E - t.2) + t.1] ++ go (cur * 2 ^ (E - t.2) + t.1) t.2 r :=
  rfl

theorem loop2_tie (sum : List GTerm) (k : Int) : ∀ (j cur : Nat) (c : List Int),
    dictdictsumchain_loop2 j sum c k (cur : Int) = some (c ++ I (doubles j cur), ((cur * 2 ^ j : Nat) : Int)) := by
  intro j
  induction j with
  | zero => intro cur c; simp [dictdictsumchain_loop2, doubles, I]
  | succ j ih =>
    intro cur c
    simp only [dictdictsumchain_loop2, bLsh_natCast_one]
    rw [ih (2 * cur), doubles, List.append_assoc, List.singleton_append, Nat.pow_succ', ← Nat.mul_assoc,
      Nat.mul_comm cur 2]
    rfl

/-- the last run of doublings is the same loop, with `cur` no longer needed -/
theorem loop3_eq (sum : List GTerm) (k : Int) : ∀ (j : Nat) (c : List Int) (cur : Int),
    dictdictsumchain_loop3 j sum c k cur = (dictdictsumchain_loop2 j sum c k cur).map Prod.fst
  | 0, _, _ => rfl
  | j + 1, _, _ => loop3_eq sum k j _ _

theorem idx_G (l : List (Nat × Nat)) (n : Nat) (h : n < l.length) : idx (G l) (n : Int) = some (toG l[n]) := by
  rw [idx_natCast]; simp [G, h]

theorem loop1_tie (l : List (Nat × Nat)) : ∀ (n : Nat) (hn : n < l.length) (c : List Int) (cur : Nat),
    dictdictsumchain_loop1 n (n : Int) (G l) c (cur : Int) =
      some (c ++ I (go cur (l[n]).2 (l.take n).reverse)) := by
  intro n
  induction n with
  | zero =>
    intro hn c cur
    have h0 := idx_G l 0 hn
    simp only [Int.natCast_zero] at h0
    simp only [dictdictsumchain_loop1, Int.natCast_zero, h0, bind, Option.bind, toG, Nat.sub_zero, loop3_eq, loop2_tie,
      Option.map_some]
    rfl
  | succ n ih =>
    intro hn c cur
    have hn' : n < l.length := Nat.lt_of_succ_lt hn
    have h1 := idx_G l (n + 1) hn
    have h0 := idx_G l n hn'
    have hsub : (((n + 1 : Nat) : Int) - 1) = (n : Int) := by rw [Int.natCast_add_one, Int.add_sub_cancel]
    have htake : (l.take (n + 1)).reverse = l[n]'hn' :: (l.take n).reverse := by
      rw [List.take_succ_eq_append_getElem hn', List.reverse_append]; rfl
    simp only [dictdictsumchain_loop1, h1, hsub, h0, bind, Option.bind, toG, loop2_tie, bAdd]
    rw [← Int.natCast_add, ih hn', htake, go_cons, I_append, I_append, ← List.append_assoc, ← List.append_assoc]
    rfl

theorem dictsumchain_tie (l : List (Nat × Nat)) (hne : l ≠ []) :
    dictdictsumchain (G l) = some (I (dictsumchain l.reverse)) := by
  obtain ⟨L, b, rfl⟩ : ∃ L b, l = L ++ [b] :=
    ⟨l.dropLast, l.getLast hne, (List.dropLast_concat_getLast hne).symm⟩
  have hget : (L ++ [b])[L.length]'(by simp) = b := by simp
  have hk : len (G (L ++ [b])) - 1 = (L.length : Int) := by simp [len, G]
  have hidx := idx_G (L ++ [b]) L.length (by simp)
  have hloop := loop1_tie (L ++ [b]) L.length (by simp) [] b.1
  simp only [hget, List.take_left', List.nil_append] at hidx hloop
  unfold dictdictsumchain
  simp only [hk, hidx, bind, Option.bind, toG, AC.Gen.Bigint.clone, bSet, Int.toNat_natCast, hloop]
  -- Go's slice is ascending: its last term is the head the model starts from, the rest is walked downwards
  rw [List.reverse_append]
  rfl

end AC.DictSumTie
