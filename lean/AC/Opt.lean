/-! C10 prototype: the pruning argument of opt.Optimize at the level of alternatives. -/
namespace P.Opt

abbrev Alt := Int × Int
def usesA (a : Alt) (k : Int) : Bool := a.1 == k || a.2 == k

structure Node where
  val : Int
  alts : List Alt

def prune (k : Int) (nd : Node) : Node := { nd with alts := nd.alts.filter (fun a => !usesA a k) }

/-- (U): at most one alternative of a node uses a given element (true for duplicate-free
    chains: the other operand is determined) -/
def Uniq (nd : Node) : Prop := ∀ k a b, a ∈ nd.alts → b ∈ nd.alts → usesA a k = true → usesA b k = true → a = b

/-- no node whose only alternative uses `k` -/
def Dispensable (nodes : List Node) (k : Int) : Prop :=
  ∀ nd ∈ nodes, ∀ a, nd.alts = [a] → usesA a k = false

/-- invariant: every node still has an alternative, and alternatives avoid removed elements -/
structure OInv (nodes : List Node) (removed : List Int) : Prop where
  nonempty : ∀ nd ∈ nodes, nd.val ∉ removed → nd.alts ≠ []
  avoid : ∀ nd ∈ nodes, ∀ a ∈ nd.alts, a.1 ∉ removed ∧ a.2 ∉ removed
  uniq : ∀ nd ∈ nodes, Uniq nd

theorem uniq_prune (k : Int) (nd : Node) (h : Uniq nd) : Uniq (prune k nd) := by
  intro k' a b ha hb hua hub
  simp only [prune, List.mem_filter] at ha hb
  exact h k' a b ha.1 hb.1 hua hub

/-- dropping the hits of `u` from a duplicate-free list leaves something, provided any two hits
    coincide and the list is not a single hit -/
theorem filter_not_ne_nil {α} (l : List α) (u : α → Bool) (hne : l ≠ []) (hnd : l.Nodup)
    (huniq : ∀ a b, a ∈ l → b ∈ l → u a = true → u b = true → a = b)
    (hsingle : ∀ a, l = [a] → u a = false) : l.filter (fun a => !u a) ≠ [] := by
  match l, hne with
  | [a], _ => simp [hsingle a rfl]
  | a :: b :: r, _ =>
    intro he
    rw [List.filter_eq_nil_iff] at he
    have ha : u a = true := by simpa using he a (by simp)
    have hb : u b = true := by simpa using he b (by simp)
    exact (List.nodup_cons.1 hnd).1 (huniq a b (by simp) (by simp) ha hb ▸ List.mem_cons_self)

/-- **safety of one removal**: if no singleton alternative uses `k`, pruning `k` everywhere keeps
    the invariant with `k` removed -/
theorem remove_safe (nodes : List Node) (removed : List Int) (k : Int) (hI : OInv nodes removed)
    (hnd : ∀ nd ∈ nodes, nd.alts.Nodup) (hd : Dispensable nodes k) :
    OInv (nodes.map (prune k)) (k :: removed) := by
  refine ⟨?_, ?_, ?_⟩
  · intro nd hnd' hval
    obtain ⟨nd0, hnd0, rfl⟩ := List.mem_map.mp hnd'
    have hval0 : nd0.val ∉ removed := fun h => hval (by simp [prune, h])
    have hne := hI.nonempty nd0 hnd0 hval0
    exact filter_not_ne_nil nd0.alts (usesA · k) hne (hnd nd0 hnd0)
      (fun x y hx hy => hI.uniq nd0 hnd0 k x y hx hy) (hd nd0 hnd0)
  · intro nd hnd' a ha
    obtain ⟨nd0, hnd0, rfl⟩ := List.mem_map.mp hnd'
    simp only [prune, List.mem_filter] at ha
    obtain ⟨ha0, hnu⟩ := ha
    obtain ⟨h1, h2⟩ := hI.avoid nd0 hnd0 a ha0
    simp only [usesA, Bool.not_eq_true', Bool.or_eq_false_iff, beq_eq_false_iff_ne] at hnu
    exact ⟨by simp [hnu.1, h1], by simp [hnu.2, h2]⟩
  · intro nd hnd'
    obtain ⟨nd0, hnd0, rfl⟩ := List.mem_map.mp hnd'
    exact uniq_prune k nd0 (hI.uniq nd0 hnd0)

/-! the counters make the removal decision sound -/
def CountsOK (nodes : List Node) (counts : Int → Nat) : Prop :=
  ∀ nd ∈ nodes, ∀ a, nd.alts = [a] → ∀ i, usesA a i = true → 0 < counts i

theorem dispensable_of_counts (nodes : List Node) (counts : Int → Nat) (k : Int)
    (h : CountsOK nodes counts) (hk : counts k = 0) : Dispensable nodes k := by
  intro nd hnd a ha
  cases hu : usesA a k with
  | false => rfl
  | true => have := h nd hnd a ha k hu; omega

def isSingletonUsing (i : Int) (nd : Node) : Bool :=
  match nd.alts with
  | [a] => usesA a i
  | _ => false

/-- the update of `Optimize`: after pruning `k`, every affected node whose list now has one
    element bumps the counters of its operands (`touched` selects the nodes the loop walks over;
    the Go loop walks over all later positions, also unchanged ones — over-counting is harmless) -/
def bump (nodes' : List Node) (touched : Node → Bool) (counts : Int → Nat) : Int → Nat :=
  fun i => counts i + (nodes'.filter (fun nd => touched nd && isSingletonUsing i nd)).length

theorem countsOK_bump (nodes : List Node) (k : Int) (touched : Node → Bool) (counts : Int → Nat)
    (h : CountsOK nodes counts)
    (hun : ∀ nd ∈ nodes, touched (prune k nd) = false → prune k nd = nd) :
    CountsOK (nodes.map (prune k)) (bump (nodes.map (prune k)) touched counts) := by
  intro nd hnd a ha i hu
  obtain ⟨nd0, hnd0, rfl⟩ := List.mem_map.mp hnd
  unfold bump
  cases ht : touched (prune k nd0) with
  | true =>
    have : 0 < ((nodes.map (prune k)).filter (fun nd => touched nd && isSingletonUsing i nd)).length := by
      apply List.length_pos_iff.mpr
      intro he
      have hm : prune k nd0 ∈ (nodes.map (prune k)).filter (fun nd => touched nd && isSingletonUsing i nd) := by
        apply List.mem_filter.mpr
        refine ⟨hnd, ?_⟩
        simp [ht, isSingletonUsing, ha, hu]
      rw [he] at hm; cases hm
    omega
  | false =>
    have e := hun nd0 hnd0 ht
    rw [e] at ha
    have := h nd0 hnd0 a ha i hu
    omega

/-- the whole loop over candidates: remove `k` iff its counter is zero -/
structure OS where
  nodes : List Node
  counts : Int → Nat
  removed : List Int

def optStep (touched : Int → Node → Bool) (st : OS) (k : Int) : OS :=
  if st.counts k = 0 then
    let nodes' := st.nodes.map (prune k)
    { nodes := nodes', counts := bump nodes' (touched k) st.counts, removed := k :: st.removed }
  else st

structure SInv (st : OS) : Prop where
  oinv : OInv st.nodes st.removed
  nodup : ∀ nd ∈ st.nodes, nd.alts.Nodup
  counts : CountsOK st.nodes st.counts

theorem optStep_inv (touched : Int → Node → Bool) (st : OS) (k : Int) (h : SInv st)
    (hun : ∀ nd ∈ st.nodes, touched k (prune k nd) = false → prune k nd = nd) : SInv (optStep touched st k) := by
  unfold optStep
  split
  · rename_i hk
    refine ⟨remove_safe st.nodes st.removed k h.oinv h.nodup (dispensable_of_counts _ _ k h.counts hk), ?_,
      countsOK_bump st.nodes k (touched k) st.counts h.counts hun⟩
    intro nd hnd
    obtain ⟨nd0, hnd0, rfl⟩ := List.mem_map.mp hnd
    exact (h.nodup nd0 hnd0).sublist List.filter_sublist
  · exact h

/-- **C10 core**: after any run of the candidate loop every element that was not removed still
    has a way of being formed from two elements that were not removed. -/
theorem opt_core (touched : Int → Node → Bool) (cands : List Int) (st : OS) (h : SInv st)
    (hun : ∀ (k : Int) (nodes : List Node), ∀ nd ∈ nodes, touched k (prune k nd) = false → prune k nd = nd) :
    let fin := cands.foldl (optStep touched) st
    ∀ nd ∈ fin.nodes, nd.val ∉ fin.removed → ∃ a ∈ nd.alts, a.1 ∉ fin.removed ∧ a.2 ∉ fin.removed := by
  have hall : ∀ (cands : List Int) (st : OS), SInv st → SInv (cands.foldl (optStep touched) st) := by
    intro cands
    induction cands with
    | nil => intro st h; exact h
    | cons k r ih => intro st h; exact ih _ (optStep_inv touched st k h (hun k st.nodes))
  intro fin nd hnd hval
  have hf := hall cands st h
  have hne := hf.oinv.nonempty nd hnd hval
  cases hl : nd.alts with
  | nil => exact absurd hl hne
  | cons a r =>
    have := hf.oinv.avoid nd hnd a (by rw [hl]; simp)
    exact ⟨a, by simp, this⟩

end P.Opt
