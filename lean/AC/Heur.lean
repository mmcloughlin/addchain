import AC.Merge
import AC.ChainFacts
import AC.LastD
/-! C08 (heuristic half) prototype: the Bos–Coster loop is correct for every sound heuristic. -/
namespace P

abbrev Suggest := List Int → Int → Option (List Int)

/-- protosequence facts a heuristic may rely on -/
structure ProtoOK (f : List Int) (t : Int) : Prop where
  asc : f.Pairwise (· < ·)
  pos : ∀ x ∈ f, 1 ≤ x
  one : (1 : Int) ∈ f
  two : (2 : Int) ∈ f
  top : ∀ x ∈ f, x < t

theorem protoOK_ne_nil {f t} (h : ProtoOK f t) : f ≠ [] := List.ne_nil_of_mem h.one

/-- what every heuristic must deliver: sorted distinct insertions below the target, after which
    the target is a sum of two protosequence members -/
def Sound (sg : Suggest) : Prop :=
  ∀ f t ins, ProtoOK f t → sg f t = some ins →
    ins.Pairwise (· < ·) ∧ (∀ x ∈ ins, 1 ≤ x ∧ x < t) ∧
    ∃ a, (a ∈ f ∨ a ∈ ins) ∧ ∃ b, (b ∈ f ∨ b ∈ ins) ∧ a + b = t

/-- what `Sound` asks of a proposal `ins` for the target `t` over the protosequence `f` -/
def GoodIns (f : List Int) (t : Int) (ins : List Int) : Prop :=
  ins.Pairwise (· < ·) ∧ (∀ x ∈ ins, 1 ≤ x ∧ x < t) ∧
    ∃ a, (a ∈ f ∨ a ∈ ins) ∧ ∃ b, (b ∈ f ∨ b ∈ ins) ∧ a + b = t

theorem sound_iff_goodIns {sg : Suggest} :
    Sound sg ↔ ∀ f t ins, ProtoOK f t → sg f t = some ins → GoodIns f t ins := Iff.rfl

def loop (sg : Suggest) : Nat → List Int → List Int → Option (List Int)
  | 0, _, _ => none
  | fuel+1, proto, c =>
    if proto.length ≤ 2 then some c
    else
      let t := proto.getLastD 0
      let proto' := proto.dropLast
      match sg proto' t with
      | none => none
      | some ins => loop sg fuel (mergeUnique proto' ins) (insertSortedUnique c t)

def findSequence (sg : Suggest) (fuel : Nat) (targets : List Int) : Option (List Int) :=
  if targets = [1] then some [1]
  else (loop sg fuel (sortUniq ([1, 2] ++ targets)) []).map (mergeUnique [1, 2])

structure LoopInv (T proto c : List Int) : Prop where
  pasc : proto.Pairwise (· < ·)
  ppos : ∀ x ∈ proto, 1 ≤ x
  one : (1 : Int) ∈ proto
  two : (2 : Int) ∈ proto
  casc : c.Pairwise (· < ·)
  above : ∀ x ∈ c, ∀ y ∈ proto, y < x
  closed : ∀ x ∈ c, ∃ a, (a ∈ proto ∨ a ∈ c) ∧ ∃ b, (b ∈ proto ∨ b ∈ c) ∧ a + b = x
  targets : ∀ x ∈ T, x ∈ proto ∨ x ∈ c

theorem two_elems (l : List Int) (hlen : l.length ≤ 2) (h1 : (1 : Int) ∈ l) (h2 : (2 : Int) ∈ l) :
    ∀ y ∈ l, y = 1 ∨ y = 2 := by
  intro y hy
  cases l with
  | nil => cases h1
  | cons a l =>
    cases l with
    | nil =>
      rw [← List.mem_singleton.1 h1] at h2
      exact absurd (List.mem_singleton.1 h2) (by decide)
    | cons b l =>
      cases l with
      | cons _ _ => exact absurd hlen (by simp)
      | nil =>
        rw [mem_pair] at h1 h2 hy
        rcases h1 with rfl | rfl
        · rcases h2 with h | rfl
          · exact absurd h (by decide)
          · exact hy
        · rcases h2 with rfl | h
          · exact hy.symm
          · exact absurd h (by decide)

namespace LoopInv
theorem init (T : List Int) (hT : ∀ x ∈ T, 1 ≤ x) : LoopInv T (sortUniq ([1, 2] ++ T)) [] := by
  have hm : ∀ x, x ∈ sortUniq ([1, 2] ++ T) ↔ x = 1 ∨ x = 2 ∨ x ∈ T := by
    intro x; rw [mem_sortUniq]; simp
  refine ⟨pairwise_sortUniq _, ?_, (hm 1).2 (Or.inl rfl), (hm 2).2 (Or.inr (Or.inl rfl)), List.Pairwise.nil,
    (fun _ h => nomatch h), (fun _ h => nomatch h), fun x hx => Or.inl ((hm x).2 (Or.inr (Or.inr hx)))⟩
  intro x hx
  rcases (hm x).1 hx with rfl | rfl | h
  · exact Int.le_refl 1
  · decide
  · exact hT x h

theorem protoOK {T proto c : List Int} (hI : LoopInv T proto c) (hlen : 2 < proto.length) :
    ProtoOK proto.dropLast (proto.getLastD 0) := by
  have hne : proto ≠ [] := List.ne_nil_of_length_pos (Nat.zero_lt_of_lt hlen)
  obtain ⟨hasc, htop⟩ := pairwise_dropLast proto hI.pasc hne
  have hpos : ∀ x ∈ proto.dropLast, 1 ≤ x := fun x hx => hI.ppos x (List.dropLast_subset _ hx)
  -- two distinct positive members lie below the last one, so it is neither 1 nor 2
  have h3 : 2 < proto.getLastD 0 := by
    have hl : 1 < proto.dropLast.length := by rw [List.length_dropLast]; exact Nat.lt_sub_of_add_lt hlen
    have h0 := hpos _ (at'_mem_of_lt _ 0 (Nat.lt_trans Nat.zero_lt_one hl))
    have h1 := at'_lt_of_pairwise _ hasc 0 1 Nat.zero_lt_one hl
    have h2 := htop _ (at'_mem_of_lt _ 1 hl)
    omega
  refine ⟨hasc, hpos, ?_, ?_, htop⟩
  · rcases (mem_iff_dropLast_or_last proto hne 1).1 hI.one with h | h
    · exact h
    · omega
  · rcases (mem_iff_dropLast_or_last proto hne 2).1 hI.two with h | h
    · exact h
    · omega

theorem finish {T p r : List Int} (hI : LoopInv T p r) (hlen : p.length ≤ 2) :
    (mergeUnique [1, 2] r).Pairwise (· < ·) ∧ IsChain (mergeUnique [1, 2] r) ∧
    ∀ z, z ∈ p ∨ z ∈ r → z ∈ mergeUnique [1, 2] r := by
  have hm : ∀ z, z ∈ mergeUnique [1, 2] r ↔ (z = 1 ∨ z = 2) ∨ z ∈ r := by
    intro z; rw [mem_mergeUnique, mem_pair]
  have hr2 : ∀ x ∈ r, 2 < x := fun x hx => hI.above x hx 2 hI.two
  have hsub : ∀ z, z ∈ p ∨ z ∈ r → z ∈ mergeUnique [1, 2] r := fun z hz =>
    (hm z).2 (hz.imp_left (two_elems p hlen hI.one hI.two z))
  have hasc := pairwise_mergeUnique [1, 2] r (by decide) hI.casc
  refine ⟨hasc, chain_of_closed _ hasc ?_ ?_ ?_, hsub⟩
  · intro x hx
    rcases (hm x).1 hx with (rfl | rfl) | h
    · decide
    · decide
    · exact Int.lt_trans (by decide) (hr2 x h)
  · cases r with
    | nil => simp [mergeUnique]
    | cons x r' =>
      have := hr2 x (List.mem_cons_self ..)
      rw [mergeUnique, if_pos (by omega)]; rfl
  · intro x hx
    rcases (hm x).1 hx with (h | h) | h
    · exact Or.inl h
    · exact Or.inr ⟨1, (hm 1).2 (Or.inl (Or.inl rfl)), 1, (hm 1).2 (Or.inl (Or.inl rfl)), h.symm⟩
    · obtain ⟨a, ha, b, hb, hab⟩ := hI.closed x h
      exact Or.inr ⟨a, hsub a ha, b, hsub b hb, hab⟩
end LoopInv

theorem loop_step_inv (sg : Suggest) (hs : Sound sg) (T proto c ins : List Int)
    (hI : LoopInv T proto c) (hlen : 2 < proto.length)
    (hsg : sg proto.dropLast (proto.getLastD 0) = some ins) :
    LoopInv T (mergeUnique proto.dropLast ins) (insertSortedUnique c (proto.getLastD 0)) := by
  have hne : proto ≠ [] := List.ne_nil_of_length_pos (Nat.zero_lt_of_lt hlen)
  have hpok := hI.protoOK hlen
  obtain ⟨hiasc, hib, a, ha, b, hb, hab⟩ := hs _ _ ins hpok hsg
  have lift : ∀ z, z ∈ proto ∨ z ∈ c →
      z ∈ mergeUnique proto.dropLast ins ∨ z ∈ insertSortedUnique c (proto.getLastD 0) := by
    intro z hz
    rw [mem_mergeUnique, mem_insertSortedUnique]
    rcases hz with hz | hz
    · rcases (mem_iff_dropLast_or_last proto hne z).1 hz with h | h
      · exact Or.inl (Or.inl h)
      · exact Or.inr (Or.inl h)
    · exact Or.inr (Or.inr hz)
  refine ⟨pairwise_mergeUnique _ _ hpok.asc hiasc, ?_, (mem_mergeUnique _ _ _).2 (Or.inl hpok.one),
    (mem_mergeUnique _ _ _).2 (Or.inl hpok.two), pairwise_insertSortedUnique _ _ hI.casc, ?_, ?_,
    fun x hx => lift x (hI.targets x hx)⟩
  · intro x hx
    rcases (mem_mergeUnique _ _ _).1 hx with h | h
    · exact hpok.pos x h
    · exact (hib x h).1
  · intro x hx y hy
    have hy' : y < proto.getLastD 0 := by
      rcases (mem_mergeUnique _ _ _).1 hy with h | h
      · exact hpok.top y h
      · exact (hib y h).2
    rcases (mem_insertSortedUnique _ _ _).1 hx with rfl | h
    · exact hy'
    · exact Int.lt_trans hy' (hI.above x h _ (getLastD_mem proto hne))
  · intro x hx
    rcases (mem_insertSortedUnique _ _ _).1 hx with rfl | h
    · exact ⟨a, Or.inl ((mem_mergeUnique _ _ _).2 ha), b, Or.inl ((mem_mergeUnique _ _ _).2 hb), hab⟩
    · obtain ⟨a', ha', b', hb', hab'⟩ := hI.closed x h
      exact ⟨a', lift a' ha', b', lift b' hb', hab'⟩

theorem loop_induct (sg : Suggest) (Q : List Int → List Int → Prop)
    (step : ∀ proto c ins, Q proto c → 2 < proto.length → sg proto.dropLast (proto.getLastD 0) = some ins →
      Q (mergeUnique proto.dropLast ins) (insertSortedUnique c (proto.getLastD 0)))
    (fuel : Nat) (proto c r : List Int) (hQ : Q proto c) (h : loop sg fuel proto c = some r) :
    ∃ proto', Q proto' r ∧ proto'.length ≤ 2 := by
  fun_induction loop sg fuel proto c with
  | case1 => cases h
  | case2 fuel proto c hlen => cases h; exact ⟨proto, hQ, hlen⟩
  | case3 => cases h
  | case4 fuel proto c hlen t proto' ins hsg ih => exact ih (step proto c ins hQ (Nat.lt_of_not_le hlen) hsg) h

theorem loop_bound (sg : Suggest) (hs : Sound sg) (T : List Int) (M : Int) (fuel : Nat) (proto c r : List Int)
    (hI : LoopInv T proto c) (hM : ∀ x, x ∈ proto ∨ x ∈ c → x ≤ M) (h : loop sg fuel proto c = some r) :
    ∀ x ∈ r, x ≤ M := by
  refine (loop_induct sg (fun p c => LoopInv T p c ∧ ∀ x, x ∈ p ∨ x ∈ c → x ≤ M) ?_ fuel proto c r ⟨hI, hM⟩ h).elim
    fun _ h' x hx => h'.1.2 x (Or.inr hx)
  rintro proto c ins ⟨hI, hM⟩ hlen hsg
  refine ⟨loop_step_inv sg hs T proto c ins hI hlen hsg, fun x hx => ?_⟩
  -- after a step `x` is an old member, the old target, or an insertion, which lies below the old target
  have hne : proto ≠ [] := List.ne_nil_of_length_pos (Nat.zero_lt_of_lt hlen)
  obtain ⟨_, hib, _⟩ := hs _ _ ins (hI.protoOK hlen) hsg
  have ht := hM _ (Or.inl (getLastD_mem proto hne))
  rw [mem_mergeUnique, mem_insertSortedUnique] at hx
  rcases hx with (h | h) | (rfl | h)
  · exact hM x (Or.inl (List.dropLast_subset _ h))
  · exact Int.le_trans (Int.le_of_lt (hib x h).2) ht
  · exact ht
  · exact hM x (Or.inr h)

theorem findSequence_cases {sg : Suggest} {fuel : Nat} {T c : List Int} (h : findSequence sg fuel T = some c) :
    (T = [1] ∧ c = [1]) ∨
    (T ≠ [1] ∧ ∃ r, loop sg fuel (sortUniq ([1, 2] ++ T)) [] = some r ∧ c = mergeUnique [1, 2] r) := by
  unfold findSequence at h
  split at h
  · rename_i hT
    exact Or.inl ⟨hT, (Option.some.inj h).symm⟩
  · rename_i hT
    obtain ⟨r, hr, hc⟩ := Option.map_eq_some_iff.1 h
    exact Or.inr ⟨hT, r, hr, hc.symm⟩

theorem findSequence_spec (sg : Suggest) (hs : Sound sg) (fuel : Nat) (T c : List Int)
    (hT : ∀ x ∈ T, 1 ≤ x) (h : findSequence sg fuel T = some c) :
    c.Pairwise (· < ·) ∧ IsChain c ∧ ∀ x ∈ T, x ∈ c := by
  rcases findSequence_cases h with ⟨rfl, rfl⟩ | ⟨_, r, hr, rfl⟩
  · exact ⟨List.pairwise_singleton _ _, isChain_one, fun x hx => hx⟩
  · obtain ⟨p', hI, hlen⟩ := loop_induct sg (LoopInv T) (loop_step_inv sg hs T) fuel _ _ r (LoopInv.init T hT) hr
    obtain ⟨hasc, hch, hsub⟩ := hI.finish hlen
    exact ⟨hasc, hch, fun x hx => hsub x (hI.targets x hx)⟩

/-- **C08 for heuristics (partial correctness for any sound heuristic)** -/
theorem findSequence_ok (sg : Suggest) (hs : Sound sg) (fuel : Nat) (T c : List Int)
    (hT : ∀ x ∈ T, 1 ≤ x) (h : findSequence sg fuel T = some c) :
    IsChain c ∧ ∀ x ∈ T, x ∈ c :=
  (findSequence_spec sg hs fuel T c hT h).2

theorem findSequence_bound (sg : Suggest) (hs : Sound sg) (fuel : Nat) (T c : List Int) (M : Int)
    (hT : ∀ x ∈ T, 1 ≤ x) (hM : ∀ x ∈ T, x ≤ M) (hM2 : 2 ≤ M ∨ T = [1])
    (h : findSequence sg fuel T = some c) : ∀ x ∈ c, x ≤ M := by
  rcases findSequence_cases h with ⟨rfl, rfl⟩ | ⟨hT1, r, hr, rfl⟩
  · exact hM
  · have hM2 : 2 ≤ M := hM2.resolve_right hT1
    have h12 : ∀ x ∈ [(1 : Int), 2], x ≤ M := fun x hx => by
      rcases (mem_pair x 1 2).1 hx with rfl | rfl
      · exact Int.le_trans (by decide) hM2
      · exact hM2
    have hb := loop_bound sg hs T M fuel _ [] r (LoopInv.init T hT) (fun x hx => by
      rcases hx with hx | hx
      · rw [mem_sortUniq, List.mem_append] at hx
        exact hx.elim (h12 x) (hM x)
      · cases hx) hr
    intro x hx
    rw [mem_mergeUnique] at hx
    exact hx.elim (h12 x) (hb x)

end P
