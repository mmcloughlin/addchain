import AC.CFTotal
/-! Every continued-fraction strategy proposes values in [2, n) for n ≥ 5 (not a power of two). -/
namespace P

theorem stratOK_singleton (s : Strategy) (g : Int → Int) (hK : ∀ n, s.K n = [g n])
    (hg : ∀ n : Int, 5 ≤ n → 2 ≤ g n ∧ g n < n) : StratOK s := by
  intro n h5 _
  rw [hK]
  exact ⟨List.cons_ne_nil _ _, fun k hk => List.mem_singleton.1 hk ▸ hg n h5⟩

theorem half_range {n x : Int} (h5 : 5 ≤ n) (h1 : n ≤ x) (h2 : x ≤ n + 1) : 2 ≤ x / 2 ∧ x / 2 < n :=
  ⟨Int.le_ediv_of_mul_le (by decide) (by omega), Int.ediv_lt_of_lt_mul (by decide) (by omega)⟩

theorem stratOK_binary : StratOK .binary :=
  stratOK_singleton _ (· / 2) (fun _ => rfl) fun n h5 => half_range h5 (Int.le_refl n) (Int.le_add_one (Int.le_refl n))

theorem stratOK_coBinary : StratOK .coBinary :=
  stratOK_singleton _ (fun n => (if n % 2 = 1 then n + 1 else n) / 2) (fun _ => rfl) fun n h5 => by
    split
    · exact half_range h5 (by omega) (Int.le_refl _)
    · exact half_range h5 (Int.le_refl n) (by omega)

/-- the divisor is `d = 2^h`, `h` half the bit length `l`: `2 ≤ d` as `2 ≤ l`, and `2 * d ≤ n` as `h + 1 < l` -/
theorem stratOK_dichotomic : StratOK .dichotomic :=
  stratOK_singleton _ (fun n => n / 2 ^ (bitLenN n.toNat / 2)) (fun _ => rfl) fun n h5 => by
    have hn0 : 0 < n := Int.lt_of_lt_of_le (by decide) h5
    have hl : 2 < bitLenN n.toNat := (lt_bitLenN_int hn0).2 (Int.le_trans (by decide) h5)
    have hh : 1 ≤ bitLenN n.toNat / 2 ∧ bitLenN n.toNat / 2 + 1 < bitLenN n.toNat := by omega
    have hlow := (lt_bitLenN_int hn0).1 hh.2
    have hd0 : (0 : Int) < 2 ^ (bitLenN n.toNat / 2) := Int.pow_pos (by decide)
    have h2 : (2 : Int) ^ 1 ≤ 2 ^ (bitLenN n.toNat / 2) := two_pow_le_int hh.1
    rw [Int.pow_succ] at hlow
    refine ⟨Int.le_ediv_of_mul_le hd0 (by rw [Int.mul_comm]; exact hlow), Int.ediv_lt_of_lt_mul hd0 ?_⟩
    exact Int.lt_of_lt_of_le (by omega) (Int.mul_le_mul_of_nonneg_left h2 (Int.le_of_lt hn0))

/-- `(√m + 1)² > m ≥ 5` forces `√m ≥ 2`, and then `2 · √m ≤ √m · √m ≤ m` -/
theorem sqrt_range {m : Nat} (h5 : 5 ≤ m) : 2 ≤ Nat.sqrt m ∧ 2 * Nat.sqrt m ≤ m := by
  have hs2 : 2 ≤ Nat.sqrt m := by
    apply Nat.le_of_not_lt
    intro hc
    have : Nat.succ (Nat.sqrt m) * Nat.succ (Nat.sqrt m) ≤ 2 * 2 := Nat.mul_le_mul hc hc
    exact absurd (Nat.lt_of_lt_of_le (Nat.lt_succ_sqrt m) this) (by omega)
  exact ⟨hs2, Nat.le_trans (Nat.mul_le_mul_right _ hs2) (Nat.sqrt_le m)⟩

theorem stratOK_sqrt : StratOK .sqrt :=
  stratOK_singleton _ (fun n => Int.ofNat (Nat.sqrt n.toNat)) (fun _ => rfl) fun n h5 => by
    have := sqrt_range (m := n.toNat) (by omega)
    simp only [Int.ofNat_eq_natCast]
    omega

theorem stratOK_total : StratOK .total := by
  intro n h5 _
  refine ⟨fun e => ?_, fun k hk => ?_⟩
  · have := congrArg List.length e
    simp only [Strategy.K, List.length_map, List.length_range, List.length_nil] at this
    omega
  · obtain ⟨i, hi, rfl⟩ := List.mem_map.1 hk
    have := List.mem_range.1 hi
    simp only [Int.ofNat_eq_natCast]
    omega

/-! dyadic and Fermat: a list of shrinking values, cut off at the first that is `≤ 1`, starting with
    `n / 2`; the fuel is the bit length of `n`, at least 1 -/

theorem dyadicK_spec (f : Nat) (k : Int) : ∀ x ∈ dyadicK f k, 2 ≤ x ∧ x ≤ k := by
  fun_induction dyadicK f k with
  | case1 => exact fun _ hx => nomatch hx
  | case2 f k hk1 ih =>
    intro x hx
    rcases List.mem_cons.mp hx with rfl | hx
    · exact ⟨hk1, Int.le_refl _⟩
    · have := ih x hx
      exact ⟨this.1, Int.le_trans this.2 (Int.ediv_le_self 2 (Int.le_trans (by decide) (Int.le_of_lt hk1)))⟩
  | case3 => exact fun _ hx => nomatch hx

theorem fermatK_spec (f : Nat) (k : Int) (s : Nat) (hk0 : 0 ≤ k) : ∀ x ∈ fermatK f k s, 2 ≤ x ∧ x ≤ k := by
  fun_induction fermatK f k s with
  | case1 => exact fun _ hx => nomatch hx
  | case2 f k s hk1 ih =>
    intro x hx
    rcases List.mem_cons.mp hx with rfl | hx
    · exact ⟨hk1, Int.le_refl _⟩
    · have := ih (Int.ediv_nonneg hk0 (Int.le_of_lt (Int.pow_pos (by decide)))) x hx
      exact ⟨this.1, Int.le_trans this.2 (Int.ediv_le_self (2 ^ s) hk0)⟩
  | case3 => exact fun _ hx => nomatch hx

/-- both start from `n / 2 > 1` with fuel `≥ 1`, so the list is not empty, and stay `≤ n / 2 < n` -/
theorem stratOK_of_half (s : Strategy) (F : Nat → Int → List Int) (hK : ∀ n, s.K n = F (bitLenN n.toNat) (n / 2))
    (hne : ∀ b k, 1 < k → F (b + 1) k ≠ []) (hF : ∀ b k, 0 ≤ k → ∀ x ∈ F b k, 2 ≤ x ∧ x ≤ k) : StratOK s := by
  intro n h5 _
  obtain ⟨h2, hlt⟩ := half_range h5 (Int.le_refl n) (Int.le_add_one (Int.le_refl n))
  rw [hK]
  refine ⟨?_, fun k hk => ?_⟩
  · rw [← Nat.sub_add_cancel (bitLenN_pos (n := n.toNat) (by omega))]
    exact hne _ _ h2
  · have := hF _ _ (Int.le_trans (by decide) h2) k hk
    exact ⟨this.1, Int.lt_of_le_of_lt this.2 hlt⟩

theorem stratOK_dyadic : StratOK .dyadic :=
  stratOK_of_half _ dyadicK (fun _ => rfl)
    (fun b k hk => by rw [dyadicK, if_pos hk]; exact List.cons_ne_nil _ _) (fun b k _ => dyadicK_spec b k)

theorem stratOK_fermat : StratOK .fermat :=
  stratOK_of_half _ (fermatK · · 1) (fun _ => rfl)
    (fun b k hk => by rw [fermatK, if_pos hk]; exact List.cons_ne_nil _ _) (fun b k hk => fermatK_spec b k 1 hk)

theorem stratOK_all (s : Strategy) : StratOK s := by
  cases s
  · exact stratOK_binary
  · exact stratOK_coBinary
  · exact stratOK_dichotomic
  · exact stratOK_sqrt
  · exact stratOK_total
  · exact stratOK_dyadic
  · exact stratOK_fermat

/-- **C08 for continued fractions, complete**: every strategy, every non-empty list of positive
    targets (any order, repeats allowed): terminates with a valid chain containing every target. -/
theorem contfrac_complete (s : Strategy) (targets : List Int) (hne : targets ≠ []) (hpos : ∀ x ∈ targets, 1 ≤ x) :
    ∃ f c, chain s f (targets.mergeSort (fun a b => a ≤ b)) = some c ∧ IsChain c ∧ ∀ x ∈ targets, x ∈ c := by
  obtain ⟨f, c, hc, _⟩ := contfrac_total s (stratOK_all s) targets hne hpos
  exact ⟨f, c, hc, contfrac_ok s f targets c hne hpos hc⟩

end P
