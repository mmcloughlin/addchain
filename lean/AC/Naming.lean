/-! C16 prototype: generated names are injective, legal and faithful. -/
namespace P.Naming

def bitLen (n : Nat) : Nat := if n = 0 then 0 else Nat.log2 n + 1

/-- name given to chain index `i` with value `cv i`: `_<binary>` for values of at most 8 bits,
    else `x<len>` for all-ones values, else `i<index>` (build.go / naming.go) -/
def nameOf (cv : Nat → Nat) (i : Nat) : List Char :=
  let x := cv i
  if bitLen x ≤ 8 then '_' :: Nat.toDigits 2 x
  else if x = 2 ^ bitLen x - 1 then 'x' :: Nat.toDigits 10 (bitLen x)
  else 'i' :: Nat.toDigits 10 i

theorem nameOf_cases (cv : Nat → Nat) (i : Nat) :
    (bitLen (cv i) ≤ 8 ∧ nameOf cv i = '_' :: Nat.toDigits 2 (cv i)) ∨
    (¬ bitLen (cv i) ≤ 8 ∧ cv i = 2 ^ bitLen (cv i) - 1 ∧ nameOf cv i = 'x' :: Nat.toDigits 10 (bitLen (cv i))) ∨
    (¬ bitLen (cv i) ≤ 8 ∧ cv i ≠ 2 ^ bitLen (cv i) - 1 ∧ nameOf cv i = 'i' :: Nat.toDigits 10 i) := by
  unfold nameOf
  by_cases a : bitLen (cv i) ≤ 8
  · exact .inl ⟨a, if_pos a⟩
  · by_cases b : cv i = 2 ^ bitLen (cv i) - 1
    · exact .inr (.inl ⟨a, b, by simp only [if_neg a]; rw [if_pos b]⟩)
    · exact .inr (.inr ⟨a, b, by simp only [if_neg a]; rw [if_neg b]⟩)

theorem nameOf_shape (cv : Nat → Nat) (i : Nat) :
    ∃ t ds, nameOf cv i = t :: ds ∧ (t = '_' ∨ t = 'x' ∨ t = 'i') ∧ ∀ x ∈ ds, x.isDigit = true := by
  rcases nameOf_cases cv i with ⟨_, e⟩ | ⟨_, _, e⟩ | ⟨_, _, e⟩
  · exact ⟨_, _, e, .inl rfl, fun x hx => Nat.isDigit_of_mem_toDigits (by omega) (by omega) hx⟩
  · exact ⟨_, _, e, .inr (.inl rfl), fun x hx => Nat.isDigit_of_mem_toDigits (by omega) (by omega) hx⟩
  · exact ⟨_, _, e, .inr (.inr rfl), fun x hx => Nat.isDigit_of_mem_toDigits (by omega) (by omega) hx⟩

theorem nameOf_faithful (cv : Nat → Nat) (i : Nat) :
    (∀ ds, nameOf cv i = '_' :: ds → Nat.ofDigitChars 2 ds 0 = cv i) ∧
    (∀ ds, nameOf cv i = 'x' :: ds → cv i = 2 ^ Nat.ofDigitChars 10 ds 0 - 1) ∧
    (∀ ds, nameOf cv i = 'i' :: ds → Nat.ofDigitChars 10 ds 0 = i) := by
  have rd2 : ∀ n, Nat.ofDigitChars 2 (Nat.toDigits 2 n) 0 = n := fun n =>
    Nat.ofDigitChars_toDigits (by omega) (by omega)
  have rd10 : ∀ n, Nat.ofDigitChars 10 (Nat.toDigits 10 n) 0 = n := fun n =>
    Nat.ofDigitChars_toDigits (by omega) (by omega)
  -- in each form one clause reads the digits back, the other two speak of a different tag
  rcases nameOf_cases cv i with ⟨_, e⟩ | ⟨_, hx, e⟩ | ⟨_, _, e⟩
  · rw [e]
    exact ⟨fun ds h => by rw [← (List.cons.inj h).2]; exact rd2 _,
      fun ds h => absurd (List.cons.inj h).1 (by decide), fun ds h => absurd (List.cons.inj h).1 (by decide)⟩
  · rw [e]
    exact ⟨fun ds h => absurd (List.cons.inj h).1 (by decide),
      fun ds h => by rw [← (List.cons.inj h).2, rd10]; exact hx, fun ds h => absurd (List.cons.inj h).1 (by decide)⟩
  · rw [e]
    exact ⟨fun ds h => absurd (List.cons.inj h).1 (by decide), fun ds h => absurd (List.cons.inj h).1 (by decide),
      fun ds h => by rw [← (List.cons.inj h).2]; exact rd10 _⟩

theorem nameOf_inj (cv : Nat → Nat) (i j : Nat) (hcv : cv i = cv j → i = j)
    (h : nameOf cv i = nameOf cv j) : i = j := by
  -- the tag says which clause of `nameOf_faithful` reads the value (or the index) back from the name
  obtain ⟨f1, f2, f3⟩ := nameOf_faithful cv i
  obtain ⟨g1, g2, g3⟩ := nameOf_faithful cv j
  obtain ⟨t, ds, e, ht, _⟩ := nameOf_shape cv i
  rw [e] at h
  rcases ht with rfl | rfl | rfl
  · exact hcv ((f1 ds e).symm.trans (g1 ds h.symm))
  · exact hcv ((f2 ds e).trans (g2 ds h.symm).symm)
  · exact (f3 ds e).symm.trans (g3 ds h.symm)

def isIdStart (c : Char) : Bool := c.isAlpha || c = '_'
def isIdChar (c : Char) : Bool := c.isAlphanum || c = '_'

theorem legal_of_shape {t : Char} {ds : List Char} (ht : t = '_' ∨ t = 'x' ∨ t = 'i')
    (hd : ∀ x ∈ ds, x.isDigit = true) : isIdStart t = true ∧ ∀ x ∈ ds, isIdChar x = true := by
  refine ⟨by rcases ht with rfl | rfl | rfl <;> decide, fun x hx => ?_⟩
  simp [isIdChar, Char.isAlphanum, hd x hx]

/-- **legality**: every generated name matches `[a-zA-Z_][a-zA-Z0-9_]*` -/
theorem nameOf_legal (cv : Nat → Nat) (i : Nat) :
    ∃ c cs, nameOf cv i = c :: cs ∧ isIdStart c = true ∧ ∀ x ∈ cs, isIdChar x = true := by
  obtain ⟨t, ds, e, ht, hd⟩ := nameOf_shape cv i
  exact ⟨t, ds, e, legal_of_shape ht hd⟩

end P.Naming
