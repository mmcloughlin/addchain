/-! C19 prototype: limb/byte conversions and sorted membership. -/
namespace P.Helpers

/-- little-endian digits in base `b` (`Uint64s` with b = 2^64, `BytesLittleEndian` with b = 256) -/
def digitsLE (b : Nat) (hb : 2 ≤ b) (x : Nat) : List Nat :=
  if h : x = 0 then [] else (x % b) :: digitsLE b hb (x / b)
termination_by x
decreasing_by exact Nat.div_lt_self (by omega) (by omega)

def valueLE (b : Nat) : List Nat → Nat
  | [] => 0
  | d :: r => d + b * valueLE b r

theorem digitsLE_eq_nil_iff (b : Nat) (hb : 2 ≤ b) (x : Nat) : digitsLE b hb x = [] ↔ x = 0 := by
  rw [digitsLE]; split <;> simp [*]

theorem digitsLE_spec (b : Nat) (hb : 2 ≤ b) : ∀ (x : Nat),
    valueLE b (digitsLE b hb x) = x ∧ (∀ d ∈ digitsLE b hb x, d < b) ∧
    (∀ l, (digitsLE b hb x).getLast? = some l → l ≠ 0) := by
  intro x
  induction x using digitsLE.induct_unfolding b hb with
  | case1 => simp [valueLE]
  | case2 x h ih =>
    obtain ⟨i1, i2, i3⟩ := ih
    refine ⟨?_, ?_, ?_⟩
    · rw [valueLE, i1, Nat.add_comm]; exact Nat.div_add_mod x b
    · intro d hd
      rcases List.mem_cons.mp hd with rfl | hd
      · exact Nat.mod_lt _ (Nat.lt_of_lt_of_le Nat.two_pos hb)
      · exact i2 d hd
    · intro l hl
      cases hr : digitsLE b hb (x / b) with
      | nil =>
        -- no higher digit: `x / b = 0`, so the only digit is `x % b = x ≠ 0`
        have hq := (digitsLE_eq_nil_iff b hb _).1 hr
        have hxb : x < b := (Nat.div_eq_zero_iff.mp hq).resolve_left
          (Nat.ne_of_gt (Nat.lt_of_lt_of_le Nat.two_pos hb))
        rw [hr, List.getLast?_singleton, Nat.mod_eq_of_lt hxb] at hl
        exact fun e => h (by rw [← e]; exact (Option.some.inj hl))
      | cons a t =>
        rw [hr, List.getLast?_cons_cons, ← hr] at hl
        exact i3 l hl

/-- `sort.Search` as used by `ContainsSorted`: least index in `[i, j)` with `xs[h] ≥ n`, else `j` -/
def search (xs : List Int) (n : Int) : Nat → Nat → Nat → Nat
  | 0, i, _ => i
  | f+1, i, j =>
    if i < j then
      let h := (i + j) / 2
      if xs.getD h 0 < n then search xs n f (h + 1) j else search xs n f i h
    else i

def containsSorted (n : Int) (xs : List Int) : Bool :=
  let i := search xs n (xs.length + 1) 0 xs.length
  decide (i < xs.length) && xs.getD i 0 == n

/-- sorted: up to a position whose entry is below `n`, every entry is below `n` -/
theorem lt_of_sorted_of_le {xs : List Int} {n : Int}
    (hs : ∀ a b, a < b → b < xs.length → xs.getD a 0 ≤ xs.getD b 0) {m : Nat} (hm : m < xs.length)
    (hc : xs.getD m 0 < n) (a : Nat) (ha : a < m + 1) : xs.getD a 0 < n := by
  rcases Nat.eq_or_lt_of_le (Nat.le_of_lt_succ ha) with rfl | h
  · exact hc
  · exact Int.lt_of_le_of_lt (hs a m h hm) hc

/-- sorted: from a position whose entry is not below `n` on, no entry is below `n` -/
theorem le_of_sorted_of_le {xs : List Int} {n : Int}
    (hs : ∀ a b, a < b → b < xs.length → xs.getD a 0 ≤ xs.getD b 0) {m : Nat}
    (hc : ¬ xs.getD m 0 < n) (a : Nat) (ha : m ≤ a) (hal : a < xs.length) : n ≤ xs.getD a 0 := by
  rcases Nat.eq_or_lt_of_le ha with rfl | h
  · exact Int.not_lt.mp hc
  · exact Int.le_trans (Int.not_lt.mp hc) (hs m a h hal)

/-- what the proof of the search needs of the midpoint: it lies in `[i, j)` and both halves are
    within the remaining fuel -/
theorem mid_bounds {i j f : Nat} (hlt : i < j) (hf : j < i + (f + 1)) :
    i ≤ (i + j) / 2 ∧ (i + j) / 2 < j ∧ j < (i + j) / 2 + 1 + f ∧ (i + j) / 2 < i + f := by
  have m1 : i ≤ (i + j) / 2 :=
    (Nat.le_div_iff_mul_le Nat.two_pos).2 (Nat.mul_two i ▸ Nat.add_le_add_left (Nat.le_of_lt hlt) i)
  have m2 : (i + j) / 2 < j :=
    (Nat.div_lt_iff_lt_mul Nat.two_pos).2 (Nat.mul_two j ▸ Nat.add_lt_add_right hlt j)
  refine ⟨m1, m2, ?_, Nat.lt_of_succ_lt_succ (Nat.lt_of_le_of_lt m2 hf)⟩
  rw [Nat.add_right_comm]
  exact Nat.lt_of_lt_of_le hf (Nat.add_le_add_right m1 _)

/-- the binary search returns the boundary between elements `< n` and elements `≥ n` -/
theorem search_spec (xs : List Int) (n : Int) (hs : ∀ a b, a < b → b < xs.length → xs.getD a 0 ≤ xs.getD b 0) :
    ∀ (f i j : Nat), j - i < f → i ≤ j → j ≤ xs.length →
    (∀ a, a < i → xs.getD a 0 < n) → (∀ a, j ≤ a → a < xs.length → n ≤ xs.getD a 0) →
    let r := search xs n f i j
    i ≤ r ∧ r ≤ j ∧ (∀ a, a < r → xs.getD a 0 < n) ∧ (∀ a, r ≤ a → a < xs.length → n ≤ xs.getD a 0) := by
  intro f i j hf hij
  -- the fuel bound in additive form, so that the steps below are linear arithmetic
  replace hf : j < i + f := (Nat.sub_lt_iff_lt_add' hij).mp hf
  induction f generalizing i j with
  | zero => exact absurd hf (Nat.not_lt.mpr hij)
  | succ f ih =>
    intro hj hlo hhi
    rw [search]
    by_cases hlt : i < j
    · rw [if_pos hlt]
      -- whichever half is kept, sortedness alone re-establishes its side of the invariant from
      -- the comparison just made
      obtain ⟨m1, m2, m3, m4⟩ := mid_bounds hlt hf
      generalize (i + j) / 2 = m at m1 m2 m3 m4
      by_cases hc : xs.getD m 0 < n
      · obtain ⟨r1, r2⟩ := ih (m + 1) j m2 m3 hj
          (lt_of_sorted_of_le hs (Nat.lt_of_lt_of_le m2 hj) hc) hhi
        simp only [if_pos hc]
        exact ⟨Nat.le_trans m1 (Nat.le_of_succ_le r1), r2⟩
      · obtain ⟨r1, r2, r3⟩ := ih i m m1 m4 (Nat.le_trans (Nat.le_of_lt m2) hj) hlo
          (le_of_sorted_of_le hs hc)
        simp only [if_neg hc]
        exact ⟨r1, Nat.le_trans r2 (Nat.le_of_lt m2), r3⟩
    · rw [if_neg hlt]
      obtain rfl : i = j := Nat.le_antisymm hij (Nat.le_of_not_lt hlt)
      exact ⟨Nat.le_refl _, Nat.le_refl _, hlo, hhi⟩

theorem getD_le_of_pairwise {xs : List Int} (hs : xs.Pairwise (· ≤ ·)) (a b : Nat) (hab : a < b)
    (hb : b < xs.length) : xs.getD a 0 ≤ xs.getD b 0 := by
  have ha : a < xs.length := Nat.lt_trans hab hb
  simp only [List.getD_eq_getElem?_getD, List.getElem?_eq_getElem ha, List.getElem?_eq_getElem hb,
    Option.getD_some]
  exact List.pairwise_iff_getElem.mp hs a b ha hb hab

theorem containsSorted_iff (n : Int) (xs : List Int) (hs : xs.Pairwise (· ≤ ·)) :
    containsSorted n xs = true ↔ n ∈ xs := by
  have hs' := getD_le_of_pairwise hs
  obtain ⟨_, _, r3, r4⟩ := search_spec xs n hs' (xs.length + 1) 0 xs.length (Nat.lt_succ_self _)
    (Nat.zero_le _) (Nat.le_refl _) (fun a h => absurd h (Nat.not_lt_zero a))
    (fun a h1 h2 => absurd h2 (Nat.not_lt.mpr h1))
  unfold containsSorted
  simp only [Bool.and_eq_true, decide_eq_true_eq, beq_iff_eq]
  generalize search xs n (xs.length + 1) 0 xs.length = r at *
  constructor
  · rintro ⟨hr, he⟩
    rw [← he, List.getD_eq_getElem?_getD, List.getElem?_eq_getElem hr]
    exact List.getElem_mem hr
  · intro hm
    obtain ⟨k, hk, hke⟩ := List.getElem_of_mem hm
    have hkd : xs.getD k 0 = n := by
      rw [List.getD_eq_getElem?_getD, List.getElem?_eq_getElem hk]; exact hke
    -- `xs[k] = n` is not below `n`, so the boundary `r` is at most `k`, and `n ≤ xs[r] ≤ xs[k] = n`
    have hrk : r ≤ k := Nat.le_of_not_lt fun hc => Int.lt_irrefl n (hkd ▸ r3 k hc)
    have hrl : r < xs.length := Nat.lt_of_le_of_lt hrk hk
    refine ⟨hrl, Int.le_antisymm ?_ (r4 r (Nat.le_refl _) hrl)⟩
    rcases Nat.eq_or_lt_of_le hrk with rfl | h
    · exact Int.le_of_eq hkd
    · exact hkd ▸ hs' r k h hk

end P.Helpers
