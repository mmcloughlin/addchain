import AC.Bits
/-! C09 prototype: `SlidingWindow.Decompose`, and the invariant `Scan` that the top-down bit scans
    (sliding window, fixed window, run length) all maintain. -/
namespace P.Bits

structure Term where
  d : Nat
  e : Nat
deriving Repr, DecidableEq

def value (s : List Term) : Nat := (s.map fun t => t.d * 2 ^ t.e).sum

theorem value_cons (t : Term) (l : List Term) : value (t :: l) = t.d * 2 ^ t.e + value l := rfl

theorem value_append (a b : List Term) : value (a ++ b) = value a + value b := by
  simp [value]

/-- `for x.Bit(l) == 0 { l++ }`, bounded by the known set bit at `top` -/
def advance (x : Nat) : Nat → Nat → Nat
  | 0, l => l
  | fuel+1, l => if x.testBit l then l else advance x fuel (l+1)

theorem advance_spec (x top : Nat) (htop : x.testBit top = true) : ∀ (fuel l : Nat), l + fuel = top →
    l ≤ advance x fuel l ∧ advance x fuel l ≤ top ∧ x.testBit (advance x fuel l) = true := by
  intro fuel
  induction fuel with
  | zero => rintro l rfl; exact ⟨Nat.le_refl _, Nat.le_refl _, htop⟩
  | succ f ih =>
    intro l hl
    unfold advance
    split
    · next hb => exact ⟨Nat.le_refl _, hl ▸ Nat.le_add_right _ _, hb⟩
    · obtain ⟨a1, a2, a3⟩ := ih (l+1) ((Nat.add_right_comm l 1 f).trans hl)
      exact ⟨Nat.le_of_succ_le a1, a2, a3⟩

/-- scan from the top; `hp` = number of low bit positions still to process. Terms are produced
    from the highest exponent down (the Go code sorts them ascending afterwards). -/
def sliding (x K : Nat) : Nat → Nat → List Term
  | 0, _ => []
  | _, 0 => []
  | fuel+1, hp+1 =>
    if x.testBit hp then
      let l0 := hp + 1 - K
      let l := advance x (hp - l0) l0
      ⟨x / 2 ^ l % 2 ^ (hp + 1 - l), l⟩ :: sliding x K fuel l
    else sliding x K fuel hp

def slidingWindow (x K : Nat) : List Term := (sliding x K (Nat.log2 x + 2) (Nat.log2 x + 1)).reverse

theorem mod_pow_split (x l w : Nat) : x % 2 ^ (l + w) = x % 2 ^ l + 2 ^ l * (x / 2 ^ l % 2 ^ w) := by
  rw [Nat.pow_add, Nat.mod_mul]

theorem shift_lt {d w e h : Nat} (hd : d < 2 ^ w) (hh : e + w ≤ h) : d * 2 ^ e < 2 ^ h :=
  calc d * 2 ^ e < 2 ^ w * 2 ^ e := Nat.mul_lt_mul_of_pos_right hd (Nat.two_pow_pos e)
    _ = 2 ^ (w + e) := (Nat.pow_add ..).symm
    _ ≤ 2 ^ h := Nat.pow_le_pow_right Nat.two_pos (Nat.add_comm e w ▸ hh)

theorem mod_succ_of_bit (x n : Nat) : x % 2 ^ (n+1) = x % 2 ^ n + 2 ^ n * (if x.testBit n then 1 else 0) := by
  rw [Nat.mod_pow_succ, Nat.testBit_eq_decide_div_mod_eq]
  rcases Nat.mod_two_eq_zero_or_one (x / 2 ^ n) with h | h <;> simp [h]

/-- What a top-down scan has made of the low `h` bits of `x`: the terms sum to them, each satisfies `P`
    and ends below bit `h`, and each ends below the exponent of every earlier one. The fixed, sliding and
    run-length scans maintain this; they differ in `P` and in where they cut. -/
structure Scan (P : Term → Prop) (x h : Nat) (l : List Term) : Prop where
  sum : value l = x % 2 ^ h
  shape : ∀ t ∈ l, P t ∧ t.d * 2 ^ t.e < 2 ^ h
  desc : l.Pairwise (fun a b => b.d * 2 ^ b.e < 2 ^ a.e)

namespace Scan
variable {P : Term → Prop} {x h l w d : Nat} {ts : List Term}

theorem nil : Scan P x 0 [] := ⟨(Nat.mod_one x).symm, nofun, .nil⟩

theorem shape_mono (s : Scan P x l ts) (hl : l ≤ h) : ∀ t ∈ ts, P t ∧ t.d * 2 ^ t.e < 2 ^ h :=
  fun t ht => ⟨(s.shape t ht).1, Nat.lt_of_lt_of_le (s.shape t ht).2 (Nat.pow_le_pow_right Nat.two_pos hl)⟩

theorem cons (s : Scan P x l ts) (hw : l + w = h) (hd : x / 2 ^ l % 2 ^ w = d) (hP : P ⟨d, l⟩) :
    Scan P x h (⟨d, l⟩ :: ts) := by
  subst hw hd
  refine ⟨?_, ?_, List.pairwise_cons.2 ⟨fun t ht => (s.shape t ht).2, s.desc⟩⟩
  · rw [value_cons, s.sum, mod_pow_split, Nat.mul_comm, Nat.add_comm]
  · intro t ht
    rcases List.mem_cons.1 ht with rfl | ht
    · exact ⟨hP, shift_lt (Nat.mod_lt _ (Nat.two_pow_pos w)) (Nat.le_refl _)⟩
    · exact s.shape_mono (Nat.le_add_right l w) t ht

theorem skip (s : Scan P x l ts) (hw : l + w = h) (h0 : x / 2 ^ l % 2 ^ w = 0) : Scan P x h ts := by
  subst hw
  exact ⟨by rw [s.sum, mod_pow_split, h0, Nat.mul_zero, Nat.add_zero], s.shape_mono (Nat.le_add_right l w), s.desc⟩

theorem skip_bit (s : Scan P x h ts) (hb : x.testBit h = false) : Scan P x (h + 1) ts :=
  s.skip rfl (by simpa [Nat.testBit_eq_decide_div_mod_eq] using hb)

end Scan

theorem window_odd {x e w : Nat} (hb : x.testBit e = true) (hw : 1 ≤ w) : x / 2 ^ e % 2 ^ w % 2 = 1 := by
  rw [Nat.mod_two_eq_one_iff_testBit_zero, Nat.testBit_mod_two_pow, Nat.testBit_div_two_pow, Nat.zero_add, hb, Bool.and_true]
  exact decide_eq_true hw

/-- the terms of the sliding window: a window of `x` at most `K` wide with both end bits set -/
def Window (x K : Nat) (t : Term) : Prop :=
  ∃ w, 1 ≤ w ∧ w ≤ K ∧ x.testBit t.e = true ∧ x.testBit (t.e + w - 1) = true ∧ t.d = x / 2 ^ t.e % 2 ^ w

theorem sliding_scan (x K : Nat) (hK : 1 ≤ K) : ∀ (fuel hp : Nat), hp ≤ fuel →
    Scan (Window x K) x hp (sliding x K fuel hp) := by
  intro fuel
  induction fuel with
  | zero =>
    intro hp h
    obtain rfl := Nat.le_zero.1 h
    exact Scan.nil
  | succ f ih =>
    intro hp h
    cases hp with
    | zero => exact Scan.nil
    | succ hp =>
      unfold sliding
      split
      · next hb =>
        dsimp only
        obtain ⟨hl0, hltop, hlbit⟩ := advance_spec x hp hb (hp - (hp + 1 - K)) (hp + 1 - K)
          (Nat.add_sub_cancel' (Nat.sub_le_of_le_add (Nat.add_le_add_left hK hp)))
        generalize advance x (hp - (hp + 1 - K)) (hp + 1 - K) = l at *
        have hw : l + (hp + 1 - l) = hp + 1 := Nat.add_sub_cancel' (Nat.le_succ_of_le hltop)
        refine (ih l (Nat.le_trans hltop (Nat.le_of_succ_le_succ h))).cons hw rfl
          ⟨hp + 1 - l, Nat.sub_pos_of_lt (Nat.lt_succ_of_le hltop),
            Nat.sub_le_iff_le_add'.2 (Nat.sub_le_iff_le_add.1 hl0), hlbit, ?_, rfl⟩
        show x.testBit (l + (hp + 1 - l) - 1) = true
        rw [hw]; exact hb
      · next hb => exact (ih hp (Nat.le_of_succ_le_succ h)).skip_bit (by simpa using hb)

/-- **C09 for the sliding window**: exact sum of the processed low part, every term odd, at most
    `K` bits wide, inside the processed range, and exponents strictly decreasing along the scan
    with no overlap. -/
theorem sliding_spec (x K : Nat) (hK : 1 ≤ K) : ∀ (fuel hp : Nat), hp ≤ fuel →
    value (sliding x K fuel hp) = x % 2 ^ hp ∧
    (∀ t ∈ sliding x K fuel hp, t.d % 2 = 1 ∧ t.d < 2 ^ K ∧ t.d * 2 ^ t.e < 2 ^ hp ∧ 0 < t.d) ∧
    (sliding x K fuel hp).Pairwise (fun a b => b.d * 2 ^ b.e < 2 ^ a.e) := by
  intro fuel hp h
  have s := sliding_scan x K hK fuel hp h
  refine ⟨s.sum, fun t ht => ?_, s.desc⟩
  obtain ⟨⟨w, hw1, hwK, hlo, _, hd⟩, hlt⟩ := s.shape t ht
  have hodd : t.d % 2 = 1 := hd ▸ window_odd hlo hw1
  have hdw : t.d < 2 ^ w := hd ▸ Nat.mod_lt _ (Nat.two_pow_pos w)
  exact ⟨hodd, Nat.lt_of_lt_of_le hdw (Nat.pow_le_pow_right Nat.two_pos hwK), hlt,
    Nat.pos_of_ne_zero fun h => by rw [h] at hodd; cases hodd⟩

end P.Bits
