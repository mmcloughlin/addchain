import AC.CFProof
/-! C08/C15 prototype: the continued-fraction recursion terminates (fuel suffices) for every
    strategy whose proposals lie in [2, n). -/
namespace P

theorem cf_mono (s : Strategy) : ∀ f : Nat,
    (∀ n c, minchain s f n = some c → minchain s (f + 1) n = some c) ∧
    (∀ n ks best c, minLoop s f n ks best = some c → minLoop s (f + 1) n ks best = some c) ∧
    (∀ ns c, chain s f ns = some c → chain s (f + 1) ns = some c) := by
  intro f
  induction f with
  | zero =>
    exact ⟨fun n c h => by simp [minchain] at h, fun n ks best c h => by simp [minLoop] at h,
      fun ns c h => by simp [chain] at h⟩
  | succ f ih =>
    obtain ⟨ihM, ihL, ihC⟩ := ih
    refine ⟨?_, ?_, ?_⟩
    · intro n c h
      refine (minchain_succ_iff s (f + 1) n c).2 (((minchain_succ_iff s f n c).1 h).imp_right (Or.imp_right ?_))
      exact fun ⟨hp, h3, h⟩ => ⟨hp, h3, ihL _ _ _ _ h⟩
    · intro n ks best c h
      cases ks with
      | nil => exact (minLoop_nil s (f + 1) n best).trans ((minLoop_nil s f n best).symm.trans h)
      | cons k ks =>
        obtain ⟨hk, c1, hc, h⟩ := (minLoop_cons_iff s f n k ks best c).1 h
        exact (minLoop_cons_iff s (f + 1) n k ks best c).2 ⟨hk, c1, ihC _ _ hc, ihL _ _ _ _ h⟩
    · intro ns c h
      by_cases hd : Degenerate ns
      · rw [chain_succ_deg s _ ns hd] at h ⊢
        exact ihM _ c h
      · obtain ⟨cq, c', hq, hc, hj⟩ := (chain_succ_iff s f ns c hd).1 h
        exact (chain_succ_iff s (f + 1) ns c hd).2 ⟨cq, c', ihM _ _ hq, ihC _ _ hc, hj⟩

theorem cf_mono_le (s : Strategy) {f f' : Nat} (hf : f ≤ f') :
    (∀ n c, minchain s f n = some c → minchain s f' n = some c) ∧
    (∀ n ks best c, minLoop s f n ks best = some c → minLoop s f' n ks best = some c) ∧
    (∀ ns c, chain s f ns = some c → chain s f' ns = some c) := by
  induction hf with
  | refl => exact ⟨fun _ _ h => h, fun _ _ _ _ h => h, fun _ _ h => h⟩
  | step _ ih =>
    obtain ⟨m1, m2, m3⟩ := cf_mono s _
    exact ⟨fun n c h => m1 n c (ih.1 n c h), fun n ks b c h => m2 n ks b c (ih.2.1 n ks b c h),
      fun ns c h => m3 ns c (ih.2.2 ns c h)⟩

theorem chain_mono_add (s : Strategy) (f k : Nat) (ns c : List Int) (h : chain s f ns = some c) :
    chain s (f + k) ns = some c :=
  (cf_mono_le s (Nat.le_add_right f k)).2.2 ns c h

def StratOK (s : Strategy) : Prop :=
  ∀ n : Int, 5 ≤ n → isPow2 n = false → s.K n ≠ [] ∧ ∀ k ∈ s.K n, 2 ≤ k ∧ k < n

theorem isPow2_small (n : Int) (h1 : 1 ≤ n) (h4 : n ≤ 4) (h3 : n ≠ 3) : isPow2 n = true := by
  have : n = 1 ∨ n = 2 ∨ n = 4 := by omega
  rcases this with rfl | rfl | rfl <;> decide

theorem chain_exists_step (s : Strategy) (ns : List Int) (hd : ¬ Degenerate ns)
    (hq : ∃ f c, minchain s f (ns.getLastD 0 / ns.dropLast.getLastD 0) = some c)
    (hc : ∃ f c, chain s f (chainRest ns) = some c) : ∃ f c, chain s f ns = some c := by
  obtain ⟨f1, cq, hq⟩ := hq
  obtain ⟨f2, c', hc⟩ := hc
  exact ⟨f1 + f2 + 1, _, (chain_succ_iff s _ ns _ hd).2 ⟨cq, c',
    (cf_mono_le s (Nat.le_add_right f1 f2)).1 _ _ hq, (cf_mono_le s (Nat.le_add_left f2 f1)).2.2 _ _ hc, rfl⟩⟩

theorem minLoop_exists (s : Strategy) (n : Int)
    (hch : ∀ k : Int, 2 ≤ k → k < n → ∃ f c, chain s f [k, n] = some c) :
    ∀ (ks : List Int) (best : Option (List Int)), (ks ≠ [] ∨ best ≠ none) → (∀ k ∈ ks, 2 ≤ k ∧ k < n) →
    ∃ f c, minLoop s f n ks best = some c := by
  intro ks
  induction ks with
  | nil =>
    intro best h _
    cases best with
    | none => exact absurd rfl (h.resolve_left fun h => h rfl)
    | some b => exact ⟨1, b, minLoop_nil s 0 n _⟩
  | cons k ks ih =>
    intro best _ hk
    have hkn := hk k (List.mem_cons_self ..)
    obtain ⟨f1, c1, hc1⟩ := hch k hkn.1 hkn.2
    obtain ⟨f2, c2, hc2⟩ := ih (better best c1) (Or.inr (better_ne_none best c1))
      (fun k' hk' => hk k' (List.mem_cons_of_mem _ hk'))
    exact ⟨f1 + f2 + 1, c2, (minLoop_cons_iff s _ n k ks best c2).2 ⟨hkn, c1,
      (cf_mono_le s (Nat.le_add_right f1 f2)).2.2 _ _ hc1, (cf_mono_le s (Nat.le_add_left f2 f1)).2.1 _ _ _ _ hc2⟩⟩

theorem minchain_exists (s : Strategy) (hs : StratOK s) (n : Int) (h1 : 1 ≤ n)
    (hch : ∀ k : Int, 2 ≤ k → k < n → ∃ f c, chain s f [k, n] = some c) : ∃ f c, minchain s f n = some c := by
  by_cases hp : isPow2 n = true
  · exact ⟨1, _, (minchain_succ_iff s 0 n _).2 (Or.inl ⟨hp, rfl⟩)⟩
  · by_cases h3 : n = 3
    · exact ⟨1, _, (minchain_succ_iff s 0 n _).2 (Or.inr (Or.inl ⟨hp, h3, rfl⟩))⟩
    · have h5 : 5 ≤ n := Int.not_le.1 fun h4 => hp (isPow2_small n h1 h4 h3)
      obtain ⟨hKne, hK⟩ := hs n h5 (Bool.eq_false_iff.2 hp)
      obtain ⟨f, c, hc⟩ := minLoop_exists s n hch (s.K n) none (Or.inl hKne) hK
      exact ⟨f + 1, c, (minchain_succ_iff s f n c).2 (Or.inr (Or.inr ⟨hp, h3, hc⟩))⟩

theorem cf_exists (s : Strategy) (hs : StratOK s) : ∀ N : Nat,
    (∀ n : Int, 1 ≤ n → n ≤ N → ∃ f c, minchain s f n = some c) ∧
    (∀ ns : List Int, ns ≠ [] → ns.Pairwise (· ≤ ·) → (∀ x ∈ ns, 1 ≤ x) → ns.getLastD 0 ≤ N →
      ∃ f c, chain s f ns = some c) := by
  intro N
  induction N with
  | zero =>
    refine ⟨fun n h1 h2 => absurd (Int.le_trans h1 h2) (by decide), fun ns hne _ hpos hl => ?_⟩
    exact absurd (Int.le_trans (hpos _ (getLastD_mem ns hne)) hl) (by decide)
  | succ N ih =>
    obtain ⟨A, B⟩ := ih
    rw [show ((N + 1 : Nat) : Int) = (N : Int) + 1 from rfl]
    -- a proper step on targets up to `N + 1`: the quotient is at most `N`
    have step : ∀ ns : List Int, Targets ns → ¬ Degenerate ns →
        ns.getLastD 0 ≤ (N : Int) + 1 → (∃ f c, chain s f (chainRest ns) = some c) →
        ∃ f c, chain s f ns = some c := by
      intro ns ht hd hl hrest
      obtain ⟨hm2, hmn, _⟩ := ht.step hd
      obtain ⟨hq1, hqn, _⟩ := ediv_step hm2 hmn
      exact chain_exists_step s ns hd (A _ hq1 (Int.le_of_lt_add_one (Int.lt_of_lt_of_le hqn hl))) hrest
    -- `chain [k, n]` recurses on `[k]` or `[n % k, k]`, whose largest member is `k ≤ N`
    have A' : ∀ n : Int, 1 ≤ n → n ≤ (N : Int) + 1 → ∃ f c, minchain s f n = some c := fun n h1 hN =>
      minchain_exists s hs n h1 fun k hk2 hkn => by
        obtain ⟨ht, hd⟩ := Targets.pair hk2 hkn
        obtain ⟨_, _, hr, hlast, _⟩ := ht.step hd
        refine step _ ht hd hN (B _ hr.ne hr.sorted hr.pos ?_)
        rw [hlast]
        exact Int.le_of_lt_add_one (Int.lt_of_lt_of_le hkn hN)
    refine ⟨A', ?_⟩
    -- by induction on the length, for repeated maxima
    intro ns
    induction hlen : ns.length using Nat.strongRecOn generalizing ns with
    | _ len ihlen =>
      intro hne hsorted hpos hl
      have ht : Targets ns := ⟨hne, hsorted, hpos⟩
      by_cases hd : Degenerate ns
      · obtain ⟨f, c, hc⟩ := A' (ns.getLastD 0) (hpos _ (getLastD_mem ns hne)) hl
        exact ⟨f + 1, c, (chain_succ_deg s f ns hd).trans hc⟩
      · obtain ⟨hm2, hmn, hr, hlast, _⟩ := ht.step hd
        refine step ns ht hd hl ?_
        by_cases hr0 : ns.getLastD 0 % ns.dropLast.getLastD 0 = 0
        · -- remainder zero: a shorter list, whose maximum may still be `N + 1`
          have hrest : chainRest ns = ns.dropLast := if_pos hr0
          refine ihlen (chainRest ns).length ?_ _ rfl hr.ne hr.sorted hr.pos (hlast ▸ Int.le_trans hmn hl)
          rw [hrest, List.length_dropLast, ← hlen]
          exact Nat.sub_lt (List.length_pos_iff.2 hne) Nat.one_pos
        · -- remainder positive: the new maximum `m` is strictly below the old one, as `n % n = 0`
          have hlt := Int.lt_iff_le_and_ne.2 ⟨hmn, fun e => hr0 (e ▸ Int.emod_self)⟩
          exact B _ hr.ne hr.sorted hr.pos (hlast ▸ Int.le_of_lt_add_one (Int.lt_of_lt_of_le hlt hl))

/-- **C08, continued fractions, with termination**: for a strategy whose proposals lie in
    `[2, n)`, `FindSequence` returns a chain for the sorted targets. -/
theorem contfrac_total (s : Strategy) (hs : StratOK s) (targets : List Int) (hne : targets ≠ [])
    (hpos : ∀ x ∈ targets, 1 ≤ x) :
    ∃ f c, chain s f (targets.mergeSort (fun a b => a ≤ b)) = some c ∧
      GoodFor (targets.mergeSort (fun a b => a ≤ b)) c := by
  obtain ⟨ht, _⟩ := targets_mergeSort targets hne hpos
  obtain ⟨f, c, hc⟩ := (cf_exists s hs ((targets.mergeSort (fun a b => decide (a ≤ b))).getLastD 0).toNat).2
    _ ht.ne ht.sorted ht.pos (Int.self_le_toNat _)
  exact ⟨f, c, hc, (cf_ok s f).2.2 _ c ht hc⟩

end P
