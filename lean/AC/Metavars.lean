import AC.OrderedMap
/-! C20 prototype: `File.Get/Add/Set` behave like an ordered map. -/
namespace P.Meta

structure Prop' where
  name : String
  doc : String
  value : String
deriving DecidableEq, Repr

abbrev File := List Prop'

def get (f : File) (n : String) : Option String := (f.find? (·.name == n)).map (·.value)

def add (f : File) (p : Prop') : Except String File :=
  match f.find? (·.name == p.name) with
  | some _ => .error "exists"
  | none => .ok (f ++ [p])

def set : File → String → String → Option File
  | [], _, _ => none
  | p :: r, n, v => if p.name = n then some ({ p with value := v } :: r)
    else (set r n v).map (p :: ·)

/-! The laws are those of `P.OMap` at the record `Prop'` keyed by `name`: `get` is `OMap.get Prop'.name Prop'.value`
by definition, `set` and `add` by `set_eq`, `add_eq`. -/

theorem set_eq (f : File) (n v : String) :
    set f n v = OMap.set Prop'.name (fun p v => { p with value := v }) f n v := by
  induction f with
  | nil => rfl
  | cons p r ih => simp only [set, OMap.set, ih]

theorem add_eq (f : File) (p : Prop') : add f p = OMap.add Prop'.name f p := by
  unfold add OMap.add
  cases f.find? (·.name == p.name) <;> rfl

theorem add_existing (f : File) (p : Prop') (h : get f p.name ≠ none) : ∃ e, add f p = .error e :=
  add_eq f p ▸ OMap.add_existing Prop'.name Prop'.value f p h

theorem add_new (f : File) (p : Prop') (h : get f p.name = none) : add f p = .ok (f ++ [p]) :=
  add_eq f p ▸ OMap.add_new Prop'.name Prop'.value f p h

theorem get_add_same (f : File) (p : Prop') (h : get f p.name = none) : get (f ++ [p]) p.name = some p.value :=
  OMap.get_add_same Prop'.name Prop'.value f p h

theorem get_add_other (f : File) (p : Prop') (n : String) (hn : n ≠ p.name) : get (f ++ [p]) n = get f n :=
  OMap.get_add_other Prop'.name Prop'.value f p n hn

theorem set_unknown : ∀ (f : File) (n v : String), get f n = none → set f n v = none := by
  intro f n v h
  rw [set_eq]
  exact OMap.set_unknown Prop'.name Prop'.value _ f n v h

theorem set_get : ∀ (f : File) (n v : String) (f' : File), set f n v = some f' →
    get f' n = some v ∧ (∀ m, m ≠ n → get f' m = get f m) ∧ f'.map (·.name) = f.map (·.name) := by
  intro f n v f' h
  rw [set_eq] at h
  obtain ⟨h1, h2, h3⟩ := OMap.set_get Prop'.name Prop'.value (fun p v => { p with value := v }) (fun _ _ => rfl) (fun _ _ => rfl) f n v f' h
  exact ⟨h1, h2, h3 _ fun _ _ => rfl⟩

end P.Meta
