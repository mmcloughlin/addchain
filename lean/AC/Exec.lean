import AC.ExecInv
/-! LTS model of exec.Parallel.Execute and its invariants (C12 prototype). -/
namespace P.Exec

inductive Phase | idle | running | stored | released deriving DecidableEq, Repr
inductive Main | spawning (j : Nat) | waiting (w : Nat) | returned deriving DecidableEq, Repr

structure St where
  main : Main
  tokens : Nat
  ph : List Phase           -- one per algorithm
  rs : List (Option Nat)    -- slot i holds `some i` (standing for `execute n aᵢ`) once stored

def init (k : Nat) : St := ⟨.spawning 0, 0, List.replicate k .idle, List.replicate k none⟩

/-- transitions for `k` algorithms and limit `L` -/
inductive Step (k L : Nat) : St → St → Prop
  | spawn (s : St) (j : Nat) : s.main = .spawning j → j < k → s.tokens < L →
      Step k L s { s with main := .spawning (j + 1), tokens := s.tokens + 1, ph := s.ph.set j .running }
  | toWait (s : St) : s.main = .spawning k → Step k L s { s with main := .waiting 0 }
  | waitSend (s : St) (w : Nat) : s.main = .waiting w → w < L → s.tokens < L →
      Step k L s { s with main := .waiting (w + 1), tokens := s.tokens + 1 }
  | ret (s : St) : s.main = .waiting L → Step k L s { s with main := .returned }
  | store (s : St) (i : Nat) : i < k → s.ph[i]? = some .running →
      Step k L s { s with ph := s.ph.set i .stored, rs := s.rs.set i (some i) }
  | release (s : St) (i : Nat) : i < k → s.ph[i]? = some .stored → 0 < s.tokens →
      Step k L s { s with ph := s.ph.set i .released, tokens := s.tokens - 1 }

inductive Reach (k L : Nat) : St → Prop
  | init : Reach k L (init k)
  | step {s t} : Reach k L s → Step k L s t → Reach k L t

def isActive : Phase → Bool | .running => true | .stored => true | _ => false
def nActive (s : St) : Nat := s.ph.countP isActive
def mainW : Main → Nat | .waiting w => w | _ => 0
def filled : Phase → Bool | .stored => true | .released => true | _ => false
def mainHeld (L : Nat) : Main → Nat | .waiting w => w | .returned => L | .spawning _ => 0
def spawned : Main → Nat → Nat | .spawning j, _ => j | _, k => k

theorem eq_released (p : Phase) (ha : isActive p = false) (hi : p ≠ .idle) : p = .released := by
  cases p <;> simp [isActive] at ha hi ⊢

def Inv (k L : Nat) (s : St) : Prop :=
  Cell.Inv isActive filled .idle k L s.tokens (mainHeld L s.main) (spawned s.main k) s.ph s.rs

theorem inv_init (k L : Nat) : Inv k L (init k) := Cell.Inv.init rfl rfl k L

theorem nActive_set (s : St) (i : Nat) (p : Phase) (h : i < s.ph.length) :
    ({ s with ph := s.ph.set i p } : St).ph.countP isActive
      = s.ph.countP isActive - (if isActive s.ph[i] then 1 else 0) + (if isActive p then 1 else 0) := by
  simp only []
  exact List.countP_set h

theorem inv_step {k L : Nat} {s t : St} (hi : Inv k L s) (hs : Step k L s t) : Inv k L t := by
  unfold Inv at hi ⊢
  cases hs with
  | spawn j hm hj hl => rw [hm] at hi; exact hi.spawn hj hl rfl rfl rfl
  | toWait hm | ret hm => rw [hm] at hi; exact hi
  | waitSend w hm hw hl => rw [hm] at hi; exact hi.send hl
  | store i hik hp => exact hi.store hp (hpi := nofun) (hqi := nofun) (hh := rfl) (hf := rfl)
  | release i hik hp hpos =>
    exact hi.move hp (hpi := nofun) (hqi := nofun) (hf := rfl) (htk := Nat.sub_add_cancel hpos)
      (Nat.le_trans (Nat.sub_le ..) hi.tok_le)

theorem inv_reach {k L : Nat} {s : St} (h : Reach k L s) : Inv k L s := by
  induction h with
  | init => exact inv_init k L
  | step _ hs ih => exact inv_step ih hs

/-- never more than `L` algorithms run at once -/
theorem limit_respected {k L : Nat} {s : St} (h : Reach k L s) : nActive s ≤ L :=
  (inv_reach h).count_le

/-- when `Execute` returns, every slot i holds the result of algorithm i -/
theorem return_complete {k L : Nat} {s : St} (h : Reach k L s) (hr : s.main = .returned) :
    ∀ i, i < k → s.rs[i]? = some (some i) := by
  have hi := inv_reach h
  unfold Inv at hi
  rw [hr] at hi
  exact fun i hik => (hi.return_complete eq_released rfl i hik).1

/-- deadlock freedom: for L ≥ 1 every reachable non-final state has an enabled step -/
theorem progress {k L : Nat} (hL : 1 ≤ L) {s : St} (h : Reach k L s) (hn : s.main ≠ .returned) :
    ∃ t, Step k L s t := by
  have hi := inv_reach h
  unfold Inv at hi
  rcases hi.holder_or with ⟨i, p, hik, hget, hpa, hpos⟩ | htok
  · -- an active worker can always move
    cases p with
    | idle => cases hpa
    | released => cases hpa
    | running => exact ⟨_, Step.store s i hik hget⟩
    | stored => exact ⟨_, Step.release s i hik hget hpos⟩
  · -- otherwise the channel holds only main's own tokens, fewer than `L` until it returns
    cases hm : s.main with
    | returned => exact absurd hm hn
    | spawning j =>
      rw [hm] at hi htok
      have hjk : j ≤ k := hi.spawn_le
      rcases Nat.lt_or_eq_of_le hjk with hj | rfl
      · exact ⟨_, Step.spawn s j hm hj (htok ▸ hL)⟩
      · exact ⟨_, Step.toWait s hm⟩
    | waiting w =>
      rw [hm] at hi htok
      have hwL : w ≤ L := hi.held_le
      rcases Nat.lt_or_eq_of_le hwL with hw | rfl
      · exact ⟨_, Step.waitSend s w hm hw (htok ▸ hw)⟩
      · exact ⟨_, Step.ret s hm⟩

/-- non-vacuity: with one algorithm and limit 1 the final state is reachable -/
example : ∃ s, Reach 1 1 s ∧ s.main = .returned := by
  refine ⟨⟨.returned, 1, [.released], [some 0]⟩, ?_, rfl⟩
  refine .step (.step (.step (.step (.step (.step .init (Step.spawn _ 0 rfl (by decide) (by decide)))
    (Step.toWait _ rfl)) (Step.store _ 0 (by decide) rfl)) (Step.release _ 0 (by decide) rfl (by decide)))
    (Step.waitSend _ 0 rfl (by decide) (by decide))) (Step.ret _ rfl)

end P.Exec
