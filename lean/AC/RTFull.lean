import AC.PrinterX
/-! Expression-level round trip `expr fuel (prBody t ++ rest) = (t, dropWs rest)` (C07) for the
whole grammar (`AC/PegFull.lean`) and the fixed printer (`AC/PrinterX.lean`, precedences from
`AC/Gen/AstPrec.lean`), with the exact stand-alone-identifier condition of F10.  The rules are
instances of those of `AC/Gram.lean`; particular to this grammar is the follow condition `NoBaseStart`. -/
namespace P.PegF
open AC.Gen
open P.Peg

/-! The printer's normal form: the only place where the generated precedence table is used. -/
def isAtom : Expr → Bool | .operand _ => true | .ident _ => true | _ => false
def isAdd : Expr → Bool | .add .. => true | _ => false

/-- nothing is parenthesised at `LowestPrec` (otherwise `printer.expr` would not terminate) -/
theorem prec_ge_lowest (x : Expr) : decide (precOf x < AstPrec.lowestPrec) = false := by cases x <;> rfl
/-- left operand of `+`: never parenthesised -/
theorem prec_addX (x : Expr) : decide (precOf x < AstPrec.add) = false := by cases x <;> rfl
/-- right operand of `+`: parenthesised iff it is an addition -/
theorem prec_addY (y : Expr) : decide (precOf y < AstPrec.add + 1) = isAdd y := by cases y <;> rfl
/-- operand of shift / double: parenthesised iff it is an operator -/
theorem prec_unary (x : Expr) : decide (precOf x < AstPrec.highestPrec) = !isAtom x := by cases x <;> rfl

def wrapU (x : Expr) : List Char := if isAtom x then prBody x else '(' :: (prBody x ++ [')'])
def wrapR (y : Expr) : List Char := if isAdd y then '(' :: (prBody y ++ [')']) else prBody y

theorem wrapU_atom {x : Expr} (h : isAtom x = true) : wrapU x = prBody x := by simp [wrapU, h]
theorem wrapU_paren {x : Expr} (h : isAtom x = false) (r : List Char) :
    wrapU x ++ r = '(' :: (prBody x ++ ')' :: r) := by simp [wrapU, h]
theorem wrapR_nonadd {y : Expr} (h : isAdd y = false) : wrapR y = prBody y := by simp [wrapR, h]
theorem wrapR_paren {y : Expr} (h : isAdd y = true) (r : List Char) :
    wrapR y ++ r = '(' :: (prBody y ++ ')' :: r) := by simp [wrapR, h]

theorem prAt_lowest (x : Expr) : prAt x AstPrec.lowestPrec = prBody x := by
  simp [prAt, prec_ge_lowest, paren]

theorem body_add (x y) : prBody (.add x y) = prBody x ++ ' ' :: '+' :: ' ' :: wrapR y := by
  simp only [prBody, prec_addX, prec_addY, paren, wrapR, plus_toList]
  cases isAdd y <;> simp
theorem body_shift (x s) : prBody (.shift x s) = wrapU x ++ ' ' :: '<' :: '<' :: ' ' :: natStr s := by
  simp only [prBody, prec_unary, paren, wrapU, shl_toList]
  cases isAtom x <;> simp
theorem body_double (x) : prBody (.double x) = '2' :: '*' :: wrapU x := by
  simp only [prBody, prec_unary, paren, wrapU, twice_toList]
  cases isAtom x <;> simp

theorem intStr_ofNat (n : Nat) : intStr (n : Int) = natStr n := rfl

theorem body_operand_zero : prBody (.operand 0) = ['1'] := by simp [prBody]
theorem body_operand_succ (k : Nat) (r : List Char) :
    prBody (.operand ((k + 1 : Nat) : Int)) ++ r = '[' :: (natStr (k + 1) ++ ']' :: r) := by
  have : ¬ (((k + 1 : Nat) : Int) = 0) := by omega
  simp only [prBody, this, if_false, intStr_ofNat, List.cons_append, List.append_assoc, List.nil_append]

theorem wrapInt_small (n : Nat) (h : n < 2 ^ 63) : wrapInt n = (n : Int) := by simp [wrapInt, h]

/-- not (`dbl` followed by `1`, a letter or `_`) -/
def SafeIdent (s : List Char) : Prop :=
  ∀ c t, s = 'd' :: 'b' :: 'l' :: c :: t → c ≠ '1' ∧ isIdStart c = false

/-- `WF sa t`: `sa` says that `t` is printed in `ShiftExpr` position (anywhere except directly
    under a shift or a double), where an identifier must satisfy `SafeIdent` (F10). -/
inductive WF : Bool → Expr → Prop
  | operand (b i) : 0 ≤ i → i < 2 ^ 63 → WF b (.operand i)
  | ident (b s) : ValidIdent s → (b = true → SafeIdent s) → WF b (.ident s)
  | add (b x y) : WF true x → WF true y → WF b (.add x y)
  | shift (b x s) : WF false x → s < 2 ^ 64 → WF b (.shift x s)
  | double (b x) : WF false x → WF b (.double x)

theorem WF.weaken {b : Bool} {x : Expr} (h : WF b x) : WF false x := by
  cases h with
  | operand _ i h1 h2 => exact .operand _ i h1 h2
  | ident _ s h1 _ => exact .ident _ s h1 (fun h => by cases h)
  | add _ x y h1 h2 => exact .add _ x y h1 h2
  | shift _ x s h1 h2 => exact .shift _ x s h1 h2
  | double _ x h1 => exact .double _ x h1

theorem WF.strengthen {b : Bool} {x : Expr} (ha : isAtom x = false) (h : WF b x) : WF true x := by
  cases h with
  | operand | ident => cases ha
  | add _ x y h1 h2 => exact .add _ x y h1 h2
  | shift _ x s h1 h2 => exact .shift _ x s h1 h2
  | double _ x h1 => exact .double _ x h1

/-- after blanks the rest does not start a base expression (so a stand-alone `dbl` is not the
    doubling keyword) -/
def NoBaseStart (r : List Char) : Prop :=
  ∀ c t, dropWs r = c :: t → c ≠ '(' ∧ c ≠ '[' ∧ c ≠ '1' ∧ isIdStart c = false

theorem noBaseStart_of_head {c : Char} {rest : List Char} (hw : isWs c = false)
    (h : c ≠ '(' ∧ c ≠ '[' ∧ c ≠ '1' ∧ isIdStart c = false) : NoBaseStart (c :: rest) := by
  intro c' t h'
  rw [dropWs_cons hw] at h'
  cases h'
  exact h

theorem noBaseStart_plus (rest : List Char) : NoBaseStart (' ' :: '+' :: rest) :=
  noBaseStart_of_head (c := '+') (by decide) (by decide)

theorem noBaseStart_nil : NoBaseStart [] := by
  intro c t h; cases h

/-- what the recursive call must satisfy on a sub-expression (inside parentheses) -/
def RecOK (rec : P Expr) (x : Expr) : Prop :=
  ∀ r e, rec (prBody x ++ ')' :: r) e = (some (x, ')' :: r), e)

theorem operand_eq : operand = Gram.operand (.operand 0) (fun i => .operand (wrapInt i)) .ident uintLitFull := rfl
theorem base_eq (rec : P Expr) : base rec = Gram.base operand rec := rfl
theorem shiftE_eq (rec : P Expr) : shiftE rec = Gram.shiftE .shift .double uintLitFull (base rec) := rfl
theorem shiftAlt2_eq (rec : P Expr) : shiftAlt2 rec = Gram.shift2 .double (base rec) := rfl

theorem operand_ident (s r : List Char) (e : Bool) (hs : ValidIdent s) (hr : EndTok r) :
    operand (s ++ r) e = (some (Expr.ident s, r), e) :=
  (Gram.reads_operand_ident (one := Expr.operand 0) (index := fun i => Expr.operand (wrapInt i))
    (num := uintLitFull) hs hr).run e

theorem idx_cases {i : Int} (h0 : 0 ≤ i) (h1 : i < 2 ^ 63) :
    i = 0 ∨ ∃ k : Nat, i = ((k + 1 : Nat) : Int) ∧ k + 1 < 2 ^ 63 := by
  obtain ⟨n, rfl⟩ := Int.eq_ofNat_of_zero_le h0
  cases n with
  | zero => exact Or.inl rfl
  | succ k => exact Or.inr ⟨k, rfl, by exact_mod_cast h1⟩

theorem body_head : ∀ {b : Bool} {t : Expr}, WF b t → ∃ c tl, prBody t = c :: tl ∧ GoodHead c := by
  intro b t h
  induction h with
  | operand b i h0 h1 =>
    rcases idx_cases h0 h1 with rfl | ⟨k, rfl, _⟩
    · exact ⟨'1', [], body_operand_zero, Or.inl rfl⟩
    · exact ⟨'[', _, by simpa using body_operand_succ k [], Or.inr (Or.inl rfl)⟩
  | ident b s hv hs =>
    obtain ⟨c, cs, rfl, hc, _⟩ := hv
    exact ⟨c, cs, rfl, .of_isIdStart hc⟩
  | add b x y hx hy ihx ihy =>
    obtain ⟨c, tl, h, hg⟩ := ihx
    exact ⟨c, tl ++ ' ' :: '+' :: ' ' :: wrapR y, by rw [body_add, h]; rfl, hg⟩
  | shift b x s hx hs ih =>
    obtain ⟨c, tl, h, hg⟩ := ih
    rw [body_shift]
    cases ha : isAtom x with
    | true => exact ⟨c, tl ++ ' ' :: '<' :: '<' :: ' ' :: natStr s, by rw [wrapU_atom ha, h]; rfl, hg⟩
    | false => exact ⟨'(', _, wrapU_paren ha _, Or.inr (Or.inr (Or.inr (Or.inl rfl)))⟩
  | double b x hx ih => exact ⟨'2', _, body_double x, Or.inr (Or.inr (Or.inl rfl))⟩

theorem dropWs_body {b : Bool} {t : Expr} (h : WF b t) (r : List Char) :
    dropWs (prBody t ++ r) = prBody t ++ r := by
  obtain ⟨c, tl, hb, hg⟩ := body_head h
  rw [hb]
  exact dropWs_cons (goodHead_not_ws hg).1 _

theorem dropWs_wrapU {b : Bool} {x : Expr} (hx : WF b x) (r : List Char) :
    dropWs (wrapU x ++ r) = wrapU x ++ r := by
  cases ha : isAtom x with
  | true => rw [wrapU_atom ha]; exact dropWs_body hx r
  | false => rw [wrapU_paren ha]; exact dropWs_cons (by decide) _

theorem dropWs_wrapR {b : Bool} {y : Expr} (hy : WF b y) (r : List Char) :
    dropWs (wrapR y ++ r) = wrapR y ++ r := by
  cases ha : isAdd y with
  | false => rw [wrapR_nonadd ha]; exact dropWs_body hy r
  | true => rw [wrapR_paren ha]; exact dropWs_cons (by decide) _

def pdepth : Expr → Nat
  | .operand _ => 0
  | .ident _ => 0
  | .add x y => max (pdepth x) (if isAdd y then pdepth y + 1 else pdepth y)
  | .shift x _ => if isAtom x then 0 else pdepth x + 1
  | .double x => if isAtom x then 0 else pdepth x + 1

/-- every level of depth prints its own pair of parentheses -/
theorem pdepth_le_length : ∀ (t : Expr), pdepth t ≤ (prBody t).length := by
  have hU : ∀ x, pdepth x ≤ (prBody x).length →
      (if isAtom x then 0 else pdepth x + 1) ≤ (wrapU x).length := fun x ih => by
    unfold wrapU
    cases isAtom x
    · simpa using Nat.le_succ_of_le ih
    · exact Nat.zero_le _
  have hR : ∀ y, pdepth y ≤ (prBody y).length →
      (if isAdd y then pdepth y + 1 else pdepth y) ≤ (wrapR y).length := fun y ih => by
    unfold wrapR
    cases isAdd y
    · exact ih
    · simpa using Nat.le_succ_of_le ih
  intro t
  induction t with
  | operand i => exact Nat.zero_le _
  | ident s => exact Nat.zero_le _
  | add x y ihx ihy =>
    rw [body_add, List.length_append]
    exact Nat.max_le.2 ⟨Nat.le_trans ihx (Nat.le_add_right _ _),
      Nat.le_trans (hR y ihy) (Nat.le_trans (Nat.le_add_right _ 3) (Nat.le_add_left _ _))⟩
  | shift x s ih =>
    rw [body_shift, List.length_append]
    exact Nat.le_trans (hU x ih) (Nat.le_add_right _ _)
  | double x ih =>
    rw [body_double]
    exact Nat.le_trans (hU x ih) (Nat.le_add_right _ 2)

theorem base_fail (rec : P Expr) {r : List Char} (h : NoBaseStart r) : Fails (base rec) (dropWs r) := by
  cases hs : dropWs r with
  | nil => exact Gram.fails_base_nil Gram.fails_operand_nil
  | cons c t =>
    obtain ⟨h1, h2, h3, h4⟩ := h c t hs
    exact Gram.fails_base_cons h1 (Gram.fails_operand_cons h3 h2 h4 t)

theorem reads_uintLitFull {n : Nat} {r : List Char} (hn : n < 2 ^ 64) (hr : EndTok r) :
    Reads uintLitFull (natStr n ++ r) n r := ⟨fun e => uintLitFull_ok n r e hn hr⟩

theorem reads_base {rec : P Expr} {x : Expr} {r : List Char} (hx : WF false x) (hr : EndTok r)
    (hrec : isAtom x = false → RecOK rec x) : Reads (base rec) (wrapU x ++ r) x r := by
  rw [base_eq, operand_eq]
  cases ha : isAtom x with
  | false =>
    rw [wrapU_paren ha]
    exact Gram.reads_base_paren (dropWs_body hx _) ⟨hrec ha r⟩
  | true =>
    rw [wrapU_atom ha]
    cases hx with
    | operand _ i h0 h1 =>
      rcases idx_cases h0 h1 with rfl | ⟨k, rfl, hk⟩
      · exact Gram.reads_base_one r
      · rw [body_operand_succ, ← wrapInt_small _ hk]
        exact Gram.reads_base_index
          (reads_uintLitFull (Nat.lt_trans hk (by decide)) (endTok_cons (by decide)))
    | ident _ s hv hs => exact Gram.reads_base_ident hv hr
    | add | shift | double => cases ha

theorem base_rt (rec : P Expr) (x : Expr) (r : List Char) (e : Bool) (hx : WF false x) (hr : EndTok r)
    (hrec : isAtom x = false → RecOK rec x) :
    base rec (wrapU x ++ r) e = (some (x, r), e) := (reads_base hx hr hrec).run e

/-- alternative 2 (doubling) fails on the text of an atom or a parenthesised expression in
    stand-alone position; for an identifier this is where `SafeIdent` and the follow condition
    `NoBaseStart` are needed (F10) -/
theorem alt2_fail_base (rec : P Expr) (x : Expr) (r : List Char) (hx : WF true x) (hr : EndTok r)
    (hnb : NoBaseStart r) : Fails (shiftAlt2 rec) (wrapU x ++ r) := by
  rw [shiftAlt2_eq]
  cases ha : isAtom x with
  | false =>
    rw [wrapU_paren ha]
    exact Gram.fails_shift2 (dropWs_cons (by decide) _) (fails_doubleOp_head (by decide) (by decide) _)
  | true =>
    rw [wrapU_atom ha]
    cases hx with
    | operand _ i h0 h1 =>
      refine Gram.fails_shift2 (dropWs_body (.operand true i h0 h1) r) ?_
      rcases idx_cases h0 h1 with rfl | ⟨k, rfl, hk⟩
      · exact fails_doubleOp_head (c := '1') (by decide) (by decide) r
      · rw [body_operand_succ]; exact fails_doubleOp_head (by decide) (by decide) _
    | ident _ s hv hs =>
      have hsafe := hs rfl
      have hw := dropWs_body (.ident true s hv hs) r
      obtain ⟨c, cs, rfl, hc, hcs⟩ := hv
      by_cases hp : "dbl".toList.isPrefixOf (c :: (cs ++ r)) = true
      · -- the text starts with `dbl`: the keyword is read, then no base expression follows
        have hp' := prefix_append_endTok "dbl".toList (c :: cs) r dbl_isIdChar hr hp
        obtain ⟨t, ht⟩ := List.isPrefixOf_iff_prefix.1 (dbl_toList ▸ hp')
        show Fails _ (c :: cs ++ r)
        rw [← ht]
        refine Gram.fails_shift2_dbl (base_fail rec (?_ : NoBaseStart (t ++ r)))
        cases t with
        | nil => exact hnb
        | cons a t1 =>
          have hida : isIdChar a = true := hcs a (by rw [← (List.cons.inj ht).2]; simp)
          obtain ⟨hs1, hs2⟩ := hsafe a t1 ht.symm
          exact noBaseStart_of_head (not_isWs_of_isIdChar hida)
            ⟨ne_of_class hida (by decide), ne_of_class hida (by decide), hs1, hs2⟩
      · exact Gram.fails_shift2 hw (fails_doubleOp (ne_of_class hc (by decide)) hp)
    | add | shift | double => cases ha

/-- The remaining input may lose leading blanks, hence `r'`. -/
theorem shiftE_rt (rec : P Expr) (t : Expr) (r : List Char) (ht : WF true t)
    (hr : EndTok r) (hns : NoShiftOp r) (hnb : NoBaseStart r)
    (hrec : ∀ x, WF true x → pdepth x < (if isAdd t then pdepth t + 1 else pdepth t) → RecOK rec x) :
    ∃ r', Reads (shiftE rec) (wrapR t ++ r) t r' ∧ dropWs r' = dropWs r := by
  rw [shiftE_eq]
  -- a base expression standing alone: the printer wraps it like an operand of a shift
  have alone : wrapR t = wrapU t → (isAtom t = false → RecOK rec t) →
      ∃ r', Reads (Gram.shiftE .shift .double uintLitFull (base rec)) (wrapR t ++ r) t r' ∧
        dropWs r' = dropWs r :=
    fun hw h => ⟨r, hw ▸ Gram.reads_shiftE_base (dropWs_wrapU ht r) (reads_base ht.weaken hr h) hns
      (alt2_fail_base rec t r ht hr hnb), rfl⟩
  cases ht with
  | operand _ i h0 h1 => exact alone rfl (fun h => by cases h)
  | ident _ s hv hs => exact alone rfl (fun h => by cases h)
  | add _ a b ha hb => exact alone rfl (fun _ => hrec _ (.add true a b ha hb) (Nat.lt_succ_self _))
  | double _ x hx =>
    have hsub : isAtom x = false → RecOK rec x :=
      fun ha => hrec x (hx.strengthen ha) (by simp [isAdd, pdepth, ha])
    refine ⟨r, ?_, rfl⟩
    rw [wrapR_nonadd rfl, body_double]
    have hb := reads_base hx hr hsub
    rw [base_eq, operand_eq] at hb ⊢
    exact Gram.reads_shiftE_double (dropWs_wrapU hx r) hb
  | shift _ x k hx hk =>
    have hsub : isAtom x = false → RecOK rec x :=
      fun ha => hrec x (hx.strengthen ha) (by simp [isAdd, pdepth, ha])
    refine ⟨dropWs r, ?_, dropWs_idem r⟩
    rw [wrapR_nonadd rfl, body_shift, List.append_assoc]
    exact Gram.reads_shiftE_shift (dropWs_wrapU hx _)
      (reads_base hx (endTok_cons (by decide)) hsub) (reads_uintLitFull hk hr)

theorem addRest_isStar (rec : P Expr) : Gram.IsStar (Gram.addStep (shiftE rec)) Expr.add (addRest rec) :=
  have succ (n acc s e) : addRest rec (n+1) acc s e = match Gram.addStep (shiftE rec) s e with
      | (some (y, s'), e') => addRest rec n (Expr.add acc y) s' e'
      | (none, e') => (some (acc, s), e') := by rw [addRest]; rfl
  ⟨fun _ => rfl, fun h => by rw [succ, h], fun h => by rw [succ, h]⟩

theorem addRest_stop (rec : P Expr) (n : Nat) (acc : Expr) (r : List Char) (e : Bool) (h : NoAddOp r) :
    addRest rec n acc r e = (some (acc, r), e) :=
  (Gram.star_stop (addRest_isStar rec) (Gram.fails_addStep h) n acc).run e

theorem addRest_step (rec : P Expr) (n : Nat) (acc y : Expr) (s r : List Char) (e : Bool)
    (hs : dropWs s = '+' :: ' ' :: (wrapR y ++ r)) (hy : WF true y) (hr : EndTok r) (hns : NoShiftOp r)
    (hnb : NoBaseStart r)
    (hrec : ∀ x, WF true x → pdepth x < (if isAdd y then pdepth y + 1 else pdepth y) → RecOK rec x) :
    ∃ r', addRest rec (n+1) acc s e = addRest rec n (Expr.add acc y) r' e ∧ dropWs r' = dropWs r := by
  obtain ⟨r', h1, h2⟩ := shiftE_rt rec y r hy hr hns hnb hrec
  exact ⟨r', Gram.star_turn (addRest_isStar rec) (Gram.reads_addStep hs (dropWs_wrapR hy r) h1) n acc e, h2⟩

def nadds : Expr → Nat
  | .add x _ => nadds x + 1
  | _ => 0

theorem nadds_le_length : ∀ (t : Expr), nadds t ≤ (prBody t).length := by
  intro t
  induction t with
  | add x y ih _ =>
    rw [body_add, List.length_append]
    exact Nat.add_le_add ih (Nat.succ_le_succ (Nat.zero_le _))
  | _ => exact Nat.zero_le _

theorem spine_leaf (rec : P Expr) (t : Expr) (hadd : isAdd t = false) (k : Nat) (r : List Char) (e : Bool)
    (ht : WF true t) (hr : EndTok r) (hns : NoShiftOp r) (hnb : NoBaseStart r)
    (hrec : ∀ x, WF true x → pdepth x < pdepth t → RecOK rec x) :
    ∃ r', (shiftE rec >>= addRest rec k) (prBody t ++ r) e = addRest rec k t r' e ∧ dropWs r' = dropWs r := by
  obtain ⟨r', h1, h2⟩ := shiftE_rt rec t r ht hr hns hnb
    (fun x hx hd => hrec x hx (by rw [hadd] at hd; exact hd))
  exact ⟨r', by rw [bind_def, ← wrapR_nonadd hadd, h1.run e], h2⟩

/-- the left spine: after reading the text of `t`, the loop holds `t` as accumulator -/
theorem spine (rec : P Expr) : ∀ (t : Expr) (k : Nat) (r : List Char) (e : Bool), WF true t →
    EndTok r → NoShiftOp r → NoBaseStart r → (∀ x, WF true x → pdepth x < pdepth t → RecOK rec x) →
    ∃ r', (shiftE rec >>= addRest rec (k + nadds t)) (prBody t ++ r) e = addRest rec k t r' e ∧
      dropWs r' = dropWs r := by
  intro t
  induction t with
  | add x y ihx _ =>
    intro k r e ht hr hns hnb hrec
    cases ht with
    | add _ _ _ hx hy =>
    obtain ⟨r1, h1, h2⟩ := ihx (k + 1) (' ' :: '+' :: ' ' :: (wrapR y ++ r)) e hx
      (endTok_cons (by decide)) (noShiftOp_plus _) (noBaseStart_plus _)
      (fun z hz hd => hrec z hz (Nat.lt_of_lt_of_le hd (Nat.le_max_left _ _)))
    obtain ⟨r2, h3, h4⟩ := addRest_step rec k x y r1 r e (h2.trans (dropWs_plus _)) hy hr hns hnb
      (fun z hz hd => hrec z hz (Nat.lt_of_lt_of_le hd (Nat.le_max_right _ _)))
    refine ⟨r2, ?_, h4⟩
    rw [body_add, List.append_assoc, ← h3, ← h1, nadds, Nat.add_right_comm k]
    rfl
  | _ => exact fun k r e => spine_leaf rec _ rfl k r e

/-- **expression-level round trip** over the full grammar: the printed text of a well-formed
    tree, followed by anything that cannot continue an expression, parses back to the tree,
    and the sticky error flag is untouched -/
theorem expr_rt : ∀ (n : Nat) (t : Expr), WF true t → pdepth t < n → ∀ (r : List Char) (e : Bool),
    EndTok r → NoShiftOp r → NoBaseStart r → NoAddOp r →
    expr n (prBody t ++ r) e = (some (t, dropWs r), e) := by
  intro n
  induction n with
  | zero => exact fun t _ h => absurd h (Nat.not_lt_zero _)
  | succ n ih =>
    intro t ht hd r e hr hns hnb hna
    have hrec : ∀ x, WF true x → pdepth x < pdepth t → RecOK (expr n) x := fun x hx hdx r' e' => by
      obtain ⟨h1, h2⟩ := noOp_of_head (c := ')') r' (by decide) (by decide)
      rw [ih x hx (Nat.lt_of_lt_of_le hdx (Nat.le_of_lt_succ hd)) (')' :: r') e' (endTok_cons (by decide)) h1
        (noBaseStart_of_head (by decide) (by decide)) h2, dropWs_cons (by decide)]
    obtain ⟨r', h1, h2⟩ := spine (expr n) t ((prBody t ++ r).length - nadds t) r e ht hr hns hnb hrec
    rw [Nat.sub_add_cancel (Nat.le_trans (nadds_le_length t) (List.length_append ▸ Nat.le_add_right _ _)),
      addRest_stop _ _ _ _ _ (noAddOp_of_dropWs h2 hna)] at h1
    exact h2 ▸ Gram.run_addE (dropWs_body ht r) h1

end P.PegF
