/-! C05 / C17 prototype: the reverse scan of `Allocator.Execute` (`acc/pass/alloc.go`) and its invariant. -/
namespace P.Alloc

inductive Op | add (x y : Nat) | dbl (x : Nat) | shl (x s : Nat)
deriving Repr, DecidableEq
structure Inst where
  out : Nat
  op : Op
deriving Repr, DecidableEq

def Op.inputs : Op → List Nat
  | .add x y => [x, y] | .dbl x => [x] | .shl x _ => [x]

structure St where
  var : Nat → Option Nat    -- the Go map index ↦ variable (entries are never deleted)
  avail : List Nat          -- free list; Go appends and takes from the END
  n : Nat

def St.allocate (s : St) (i : Nat) : St :=
  match s.var i with
  | some _ => s
  | none =>
    match s.avail.getLast? with
    | some v => { s with var := fun j => if j = i then some v else s.var j, avail := s.avail.dropLast }
    | none => { s with var := fun j => if j = i then some s.n else s.var j, n := s.n + 1 }

def St.free (s : St) (v : Nat) : St := { s with avail := s.avail ++ [v] }

/-- one reverse step of Allocator.Execute: Variable(out) (allocating on demand), Free, then
    Allocate each input in order. -/
def step (s : St) (inst : Inst) : St :=
  let s1 := s.allocate inst.out
  let s2 := s1.free ((s1.var inst.out).getD 0)
  inst.op.inputs.foldl St.allocate s2

def init : St := { var := fun _ => none, avail := [], n := 0 }
def run (ir : List Inst) : St := ir.reverse.foldl step init

/-- Invariant of the reverse scan. `live`: indices needed later in program order (already
    seen as inputs, not yet defined). -/
structure Inv (s : St) (live : List Nat) : Prop where
  avail_lt : ∀ v ∈ s.avail, v < s.n
  avail_nodup : s.avail.Nodup
  live_has : ∀ i ∈ live, ∃ v, s.var i = some v ∧ v < s.n ∧ v ∉ s.avail
  live_inj : ∀ i ∈ live, ∀ j ∈ live, s.var i = s.var j → i = j
  cover : ∀ v, v < s.n → v ∈ s.avail ∨ ∃ i ∈ live, s.var i = some v
  /-- entries exist only for live or already-defined indices -/
  nolive_none : ∀ i, i ∉ live → s.var i = none ∨ True

theorem allocate_of_some {s : St} {i v : Nat} (h : s.var i = some v) : s.allocate i = s := by
  simp [St.allocate, h]

theorem allocate_none {s : St} {i : Nat} (h : s.var i = none) :
    ∃ v, (s.allocate i).var = (fun j => if j = i then some v else s.var j) ∧
      ((s.avail = (s.allocate i).avail ++ [v] ∧ (s.allocate i).n = s.n) ∨
       (s.avail = [] ∧ (s.allocate i).avail = [] ∧ v = s.n ∧ (s.allocate i).n = s.n + 1)) := by
  unfold St.allocate
  rcases List.eq_nil_or_concat s.avail with ha | ⟨av, v, ha⟩
  · exact ⟨s.n, by simp [h, ha]⟩
  · exact ⟨v, by simp [h, ha]⟩

theorem allocate_var_ne (s : St) (i j : Nat) (h : j ≠ i) : (s.allocate i).var j = s.var j := by
  cases hv : s.var i with
  | some v => rw [allocate_of_some hv]
  | none =>
    obtain ⟨v, hvar, _⟩ := allocate_none hv
    simp [hvar, h]

theorem allocate_self (s : St) (i : Nat) : ∃ v, (s.allocate i).var i = some v := by
  cases hv : s.var i with
  | some v => exact ⟨v, by rw [allocate_of_some hv, hv]⟩
  | none =>
    obtain ⟨v, hvar, _⟩ := allocate_none hv
    exact ⟨v, by simp [hvar]⟩

theorem allocate_var_mono (s : St) (i j v : Nat) (h : s.var j = some v) : (s.allocate i).var j = some v := by
  by_cases hji : j = i
  · subst hji; rw [allocate_of_some h]; exact h
  · rw [allocate_var_ne s i j hji]; exact h

theorem free_var (s : St) (v i : Nat) : (s.free v).var i = s.var i := rfl
theorem free_n (s : St) (v : Nat) : (s.free v).n = s.n := rfl

theorem foldl_allocate_var (xs : List Nat) : ∀ (s : St) (i : Nat), i ∉ xs → (xs.foldl St.allocate s).var i = s.var i := by
  induction xs with
  | nil => intro s i _; rfl
  | cons x xs ih =>
    intro s i hi
    simp only [List.foldl_cons]
    rw [ih _ _ (fun h => hi (List.mem_cons_of_mem _ h)), allocate_var_ne s x i (fun e => hi (e ▸ List.mem_cons_self))]

theorem foldl_allocate_mono (xs : List Nat) : ∀ (s : St) (i v : Nat), s.var i = some v →
    (xs.foldl St.allocate s).var i = some v := by
  induction xs with
  | nil => intro s i v h; exact h
  | cons x xs ih => intro s i v h; exact ih _ _ _ (allocate_var_mono s x i v h)

theorem foldl_allocate_self : ∀ (xs : List Nat) (s : St) (x : Nat), x ∈ xs →
    ∃ v, (xs.foldl St.allocate s).var x = some v := by
  intro xs
  induction xs with
  | nil => intro s x h; cases h
  | cons y r ih =>
    intro s x h
    rcases List.mem_cons.mp h with rfl | h
    · obtain ⟨v, hv⟩ := allocate_self s x
      exact ⟨v, foldl_allocate_mono r _ x v hv⟩
    · exact ih _ x h

/-- the invariant after the variable `v`, held by no live index, was handed out to `i`: the free list only shrinks,
    by `v` if at all, and `n` grows only to make room for `v` -/
theorem inv_fresh {s s' : St} {live : List Nat} {i v : Nat} (h : Inv s live) (hnl : i ∉ live)
    (hvar : s'.var = fun j => if j = i then some v else s.var j)
    (unheld : ∀ k ∈ live, s.var k ≠ some v) (sub : ∀ w ∈ s'.avail, w ∈ s.avail) (nodup : s'.avail.Nodup)
    (n_le : s.n ≤ s'.n) (lt : v < s'.n) (not_avail : v ∉ s'.avail)
    (old : ∀ w, w < s'.n → w ≠ v → w < s.n ∧ (w ∈ s.avail → w ∈ s'.avail)) : Inv s' (i :: live) := by
  have hvi : s'.var i = some v := by simp [hvar]
  have hvl : ∀ k ∈ live, s'.var k = s.var k := fun k hk => by
    have : k ≠ i := fun e => hnl (e ▸ hk)
    simp [hvar, this]
  refine ⟨fun w hw => Nat.lt_of_lt_of_le (h.avail_lt w (sub w hw)) n_le, nodup, ?_, ?_, ?_,
    fun _ _ => Or.inr trivial⟩
  · intro j hj
    rcases List.mem_cons.mp hj with rfl | hj
    · exact ⟨v, hvi, lt, not_avail⟩
    · obtain ⟨w, hw1, hw2, hw3⟩ := h.live_has j hj
      exact ⟨w, (hvl j hj).trans hw1, Nat.lt_of_lt_of_le hw2 n_le, fun hm => hw3 (sub w hm)⟩
  · intro j hj k hk
    rcases List.mem_cons.mp hj with rfl | hj' <;> rcases List.mem_cons.mp hk with rfl | hk'
    · intro _; rfl
    · rw [hvi, hvl k hk']; intro e; exact absurd e.symm (unheld k hk')
    · rw [hvi, hvl j hj']; intro e; exact absurd e (unheld j hj')
    · rw [hvl j hj', hvl k hk']; exact h.live_inj j hj' k hk'
  · intro w hw
    by_cases hwv : w = v
    · exact Or.inr ⟨i, List.mem_cons_self, hwv ▸ hvi⟩
    · obtain ⟨hw', hav⟩ := old w hw hwv
      rcases h.cover w hw' with hm | ⟨j, hj, hjv⟩
      · exact Or.inl (hav hm)
      · exact Or.inr ⟨j, List.mem_cons_of_mem _ hj, (hvl j hj).trans hjv⟩

theorem allocate_fresh {s : St} {live : List Nat} (h : Inv s live) {i : Nat}
    (hi : s.var i = none) (hnl : i ∉ live) : Inv (s.allocate i) (i :: live) := by
  obtain ⟨v, hvar, hc⟩ := allocate_none hi
  generalize s.allocate i = s' at hvar hc ⊢
  rcases hc with ⟨ha, hn⟩ | ⟨ha, ha', rfl, hn⟩
  · -- the last free variable is taken
    have hnd := List.nodup_append.mp (ha ▸ h.avail_nodup)
    have hvm : v ∈ s.avail := ha ▸ List.mem_append_right _ (List.mem_singleton_self v)
    refine inv_fresh h hnl hvar (sub := fun w hw => ha ▸ List.mem_append_left _ hw) (nodup := hnd.1)
      (n_le := Nat.le_of_eq hn.symm) (lt := hn ▸ h.avail_lt v hvm)
      (not_avail := fun hm => hnd.2.2 v hm v (List.mem_singleton_self v) rfl) (unheld := ?_) (old := ?_)
    · intro k hk e
      obtain ⟨w, hw, _, hwa⟩ := h.live_has k hk
      cases hw.symm.trans e
      exact hwa hvm
    · intro w hw hwv
      refine ⟨hn ▸ hw, fun hm => ?_⟩
      rcases List.mem_append.mp (ha ▸ hm) with hm | hm
      · exact hm
      · exact absurd (List.mem_singleton.mp hm) hwv
  · -- nothing is free, so a new variable `s.n` is made
    refine inv_fresh h hnl hvar (sub := fun w hw => absurd (ha' ▸ hw) List.not_mem_nil)
      (nodup := ha' ▸ List.nodup_nil) (n_le := hn ▸ Nat.le_succ _) (lt := hn ▸ Nat.lt_succ_self _)
      (not_avail := ha' ▸ List.not_mem_nil) (unheld := ?_) (old := ?_)
    · intro k hk e
      obtain ⟨w, hw, hwn, _⟩ := h.live_has k hk
      cases hw.symm.trans e
      exact Nat.lt_irrefl _ hwn
    · intro w hw hwv
      exact ⟨Nat.lt_of_le_of_ne (Nat.le_of_lt_succ (Nat.lt_of_lt_of_eq hw hn)) hwv,
        fun hm => absurd (ha ▸ hm) List.not_mem_nil⟩

theorem inv_congr {s : St} {l1 l2 : List Nat} (h : ∀ i, i ∈ l1 ↔ i ∈ l2) (hi : Inv s l1) : Inv s l2 :=
  ⟨hi.avail_lt, hi.avail_nodup,
   fun i hi2 => hi.live_has i ((h i).2 hi2),
   fun i hi2 j hj2 => hi.live_inj i ((h i).2 hi2) j ((h j).2 hj2),
   fun v hv => (hi.cover v hv).imp id (fun ⟨i, hil, hiv⟩ => ⟨i, (h i).1 hil, hiv⟩),
   fun _ _ => Or.inr trivial⟩

theorem allocate_inv {s : St} {live : List Nat} (h : Inv s live) (i : Nat)
    (hi : i ∈ live ∨ s.var i = none) : Inv (s.allocate i) (i :: live) := by
  by_cases hl : i ∈ live
  · obtain ⟨v, hv, _, _⟩ := h.live_has i hl
    rw [allocate_of_some hv]
    exact inv_congr (fun j => by simp; intro e; subst e; exact hl) h
  · exact allocate_fresh h (hi.resolve_left hl) hl

theorem free_inv {s : St} {live : List Nat} (h : Inv s live) (o v : Nat) (ho : o ∈ live)
    (hv : s.var o = some v) : Inv (s.free v) (live.filter (· ≠ o)) := by
  obtain ⟨v', hv', hvn, hva⟩ := h.live_has o ho
  cases hv.symm.trans hv'
  unfold St.free
  refine ⟨?_, ?_, ?_, ?_, ?_, fun _ _ => Or.inr trivial⟩
  · intro w hw
    rcases List.mem_append.mp hw with hw | hw
    · exact h.avail_lt w hw
    · cases List.mem_singleton.mp hw; exact hvn
  · refine List.nodup_append.mpr ⟨h.avail_nodup, (List.nodup_cons.mpr ⟨List.not_mem_nil, List.nodup_nil⟩), ?_⟩
    intro a ha b hb hab
    cases List.mem_singleton.mp hb; exact hva (hab ▸ ha)
  · intro j hj
    obtain ⟨hj, hjo⟩ := List.mem_filter.mp hj
    obtain ⟨w, hw1, hw2, hw3⟩ := h.live_has j hj
    refine ⟨w, hw1, hw2, fun hm => ?_⟩
    rcases List.mem_append.mp hm with hm | hm
    · exact hw3 hm
    · cases List.mem_singleton.mp hm
      exact of_decide_eq_true hjo (h.live_inj j hj o ho (hw1.trans hv.symm))
  · intro j hj k hk
    exact h.live_inj j (List.mem_filter.mp hj).1 k (List.mem_filter.mp hk).1
  · intro w hw
    rcases h.cover w hw with hm | ⟨j, hj, hjv⟩
    · exact Or.inl (List.mem_append_left _ hm)
    · by_cases hjo : j = o
      · cases (hjo ▸ hjv).symm.trans hv
        exact Or.inl (List.mem_append_right _ (List.mem_singleton_self _))
      · exact Or.inr ⟨j, List.mem_filter.mpr ⟨hj, decide_eq_true hjo⟩, hjv⟩

def liveBefore' (live : List Nat) (inst : Inst) : List Nat :=
  inst.op.inputs.reverse ++ live.filter (· ≠ inst.out)

theorem foldl_allocate_ind {Q : St → List Nat → Prop}
    (hQ : ∀ {s live} x, Q s live → (x ∈ live ∨ s.var x = none) → Q (s.allocate x) (x :: live)) :
    ∀ (xs : List Nat) {s : St} {live : List Nat}, Q s live →
    (∀ x ∈ xs, x ∈ live ∨ s.var x = none) → Q (xs.foldl St.allocate s) (xs.reverse ++ live) := by
  intro xs
  induction xs with
  | nil => intro s live h _; exact h
  | cons x xs ih =>
    intro s live h hx
    -- the side condition survives the allocation of `x`
    have hxs : ∀ y ∈ xs, y ∈ x :: live ∨ (s.allocate x).var y = none := fun y hy => by
      by_cases hyx : y = x
      · exact Or.inl (hyx ▸ List.mem_cons_self)
      · exact (hx y (List.mem_cons_of_mem _ hy)).imp (List.mem_cons_of_mem _)
          (fun hn => (allocate_var_ne s x y hyx).trans hn)
    simpa using ih (hQ x h (hx x List.mem_cons_self)) hxs

/-- The first half of a reverse step: the state after `Variable(out)` and `Free`, from which the inputs
    are allocated. -/
theorem step_mid {s : St} {live : List Nat} (h : Inv s live) (inst : Inst)
    (ho : inst.out ∈ live ∨ s.var inst.out = none)
    (hin : ∀ x ∈ inst.op.inputs, x ≠ inst.out ∧ (x ∈ live ∨ s.var x = none)) :
    ∃ s2, step s inst = inst.op.inputs.foldl St.allocate s2 ∧ s2.n = (s.allocate inst.out).n ∧
      Inv s2 (live.filter (· ≠ inst.out)) ∧
      ∀ x ∈ inst.op.inputs, x ∈ live.filter (· ≠ inst.out) ∨ s2.var x = none := by
  have h1 := allocate_inv h inst.out ho
  obtain ⟨v, hv, _, _⟩ := h1.live_has inst.out List.mem_cons_self
  refine ⟨(s.allocate inst.out).free v, by simp only [step, hv, Option.getD_some], rfl, ?_, ?_⟩
  · exact inv_congr (fun i => by simp) (free_inv h1 inst.out v List.mem_cons_self hv)
  · intro x hx
    obtain ⟨hne, hx'⟩ := hin x hx
    refine hx'.imp (fun hl => List.mem_filter.mpr ⟨hl, decide_eq_true hne⟩) (fun hn => ?_)
    rw [free_var, allocate_var_ne s inst.out x hne]; exact hn

theorem step_inv {s : St} {live : List Nat} (h : Inv s live) (inst : Inst)
    (ho : inst.out ∈ live ∨ s.var inst.out = none)
    (hin : ∀ x ∈ inst.op.inputs, x ≠ inst.out ∧ (x ∈ live ∨ s.var x = none)) :
    Inv (step s inst) (liveBefore' live inst) := by
  obtain ⟨s2, e, _, h2, hx⟩ := step_mid h inst ho hin
  rw [e]
  exact foldl_allocate_ind (fun x h hx => allocate_inv h x hx) _ h2 hx

def outs (ir : List Inst) : List Nat := ir.map (·.out)

def liveAt : List Inst → List Nat
  | [] => []
  | inst :: suf => liveBefore' (liveAt suf) inst

/-- well-formedness, suffix-closed: outputs are pairwise distinct and no instruction reads its
    own output or the output of a later instruction -/
def WFs : List Inst → Prop
  | [] => True
  | inst :: suf => inst.out ∉ outs suf ∧ (∀ x ∈ inst.op.inputs, x ≠ inst.out ∧ x ∉ outs suf) ∧ WFs suf

def Supp (s : St) (live D : List Nat) : Prop := ∀ i, s.var i ≠ none → i ∈ live ∨ i ∈ D

theorem run_cons (inst : Inst) (suf : List Inst) : run (inst :: suf) = step (run suf) inst := by
  simp [run, List.foldl_append]

theorem mem_liveAt_cons {inst : Inst} {suf : List Inst} {j : Nat} :
    j ∈ liveAt (inst :: suf) ↔ j ∈ inst.op.inputs ∨ (j ∈ liveAt suf ∧ j ≠ inst.out) := by
  simp [liveAt, liveBefore']

theorem live_reader : ∀ (suf : List Inst) (j : Nat), j ∈ liveAt suf → ∃ i' ∈ suf, j ∈ i'.op.inputs := by
  intro suf
  induction suf with
  | nil => intro j h; cases h
  | cons a r ih =>
    intro j h
    rcases mem_liveAt_cons.mp h with h | h
    · exact ⟨a, List.mem_cons_self, h⟩
    · obtain ⟨i', hi', hr⟩ := ih j h.1
      exact ⟨i', List.mem_cons_of_mem _ hi', hr⟩

theorem Supp.fresh {s : St} {live D : List Nat} (h : Supp s live D) {i : Nat} (hi : i ∉ D) :
    i ∈ live ∨ s.var i = none := by
  by_cases hv : s.var i = none
  · exact Or.inr hv
  · exact Or.inl ((h i hv).resolve_right hi)

theorem step_var_of_allocate (s : St) (inst : Inst) (i v : Nat)
    (h : (s.allocate inst.out).var i = some v) : (step s inst).var i = some v :=
  foldl_allocate_mono _ _ i v h

theorem step_var_mono (s : St) (inst : Inst) (i v : Nat) (h : s.var i = some v) :
    (step s inst).var i = some v :=
  step_var_of_allocate s inst i v (allocate_var_mono s inst.out i v h)

theorem step_var_support (s : St) (inst : Inst) (i : Nat) (h : (step s inst).var i ≠ none) :
    s.var i ≠ none ∨ i = inst.out ∨ i ∈ inst.op.inputs := by
  by_cases h1 : i ∈ inst.op.inputs
  · exact Or.inr (Or.inr h1)
  · by_cases h2 : i = inst.out
    · exact Or.inr (Or.inl h2)
    · left
      unfold step at h
      rw [foldl_allocate_var _ _ _ h1, free_var, allocate_var_ne s inst.out i h2] at h
      exact h

theorem run_inv : ∀ (ir : List Inst), WFs ir → Inv (run ir) (liveAt ir) ∧ Supp (run ir) (liveAt ir) (outs ir) := by
  intro ir
  induction ir with
  | nil =>
    intro _
    exact ⟨⟨nofun, List.nodup_nil, nofun, nofun, nofun, fun _ _ => Or.inr trivial⟩, fun i hi => absurd rfl hi⟩
  | cons inst suf ih =>
    intro ⟨hout, hin, hsuf⟩
    obtain ⟨hinv, hsupp⟩ := ih hsuf
    rw [run_cons]
    refine ⟨step_inv hinv inst (hsupp.fresh hout) (fun x hx => ⟨(hin x hx).1, hsupp.fresh (hin x hx).2⟩), ?_⟩
    intro i hi
    show i ∈ liveAt (inst :: suf) ∨ i ∈ inst.out :: outs suf
    rw [mem_liveAt_cons, List.mem_cons]
    rcases step_var_support _ _ _ hi with h | h | h
    · rcases hsupp i h with hl | hd
      · by_cases hio : i = inst.out
        · exact Or.inr (Or.inl hio)
        · exact Or.inl (Or.inr ⟨hl, hio⟩)
      · exact Or.inr (Or.inr hd)
    · exact Or.inr (Or.inl h)
    · exact Or.inl (Or.inl h)

/-- what `step_inv` asks of the first instruction of a well-formed program -/
theorem wfs_fresh (inst : Inst) (suf : List Inst) (hwf : WFs (inst :: suf)) :
    (inst.out ∈ liveAt suf ∨ (run suf).var inst.out = none) ∧
    ∀ x ∈ inst.op.inputs, x ≠ inst.out ∧ (x ∈ liveAt suf ∨ (run suf).var x = none) :=
  have hsupp := (run_inv suf hwf.2.2).2
  ⟨hsupp.fresh hwf.1, fun x hx => ⟨(hwf.2.1 x hx).1, hsupp.fresh (hwf.2.1 x hx).2⟩⟩

theorem run_var_mono : ∀ (pre suf : List Inst) (i v : Nat), (run suf).var i = some v →
    (run (pre ++ suf)).var i = some v := by
  intro pre
  induction pre with
  | nil => intro suf i v h; exact h
  | cons inst pre ih =>
    intro suf i v h
    show (run (inst :: (pre ++ suf))).var i = some v
    rw [run_cons]
    exact step_var_mono _ _ _ _ (ih suf i v h)

theorem WFs_suffix : ∀ (pre suf : List Inst), WFs (pre ++ suf) → WFs suf := by
  intro pre
  induction pre with
  | nil => intro suf h; exact h
  | cons a pre ih => intro suf h; exact ih suf h.2.2

/-- **Interference freedom**: at every program point, two different values that are both still
    needed are kept in different variables of the final allocation. -/
theorem interference (pre suf : List Inst) (hwf : WFs (pre ++ suf)) (i j : Nat)
    (hi : i ∈ liveAt suf) (hj : j ∈ liveAt suf) (hij : i ≠ j) :
    (run (pre ++ suf)).var i ≠ (run (pre ++ suf)).var j := by
  obtain ⟨hinv, _⟩ := run_inv suf (WFs_suffix pre suf hwf)
  obtain ⟨vi, hvi, _, _⟩ := hinv.live_has i hi
  obtain ⟨vj, hvj, _, _⟩ := hinv.live_has j hj
  rw [run_var_mono pre suf i vi hvi, run_var_mono pre suf j vj hvj]
  exact fun h => hij (hinv.live_inj i hi j hj (hvi.trans (h.trans hvj.symm)))

end P.Alloc
