import AC.Props.C04
import AC.Props.C16
import AC.Props.C07
import AC.Props.C03
import AC.Props.C06
/-! # Compositions across the models of C03 / C04 / C06 / C07 (text level)

Three model families meet here:

* `P.Sem` / `P.BuildX` (C04, C16): scripts with `Nat` operand indices and `String` names, the builder
  `buildX`, the direct semantics `P.Sem.dStmts`;
* `P.PegF` (C07): trees with `Int` operand indices and `List Char` names, `parse`, `printChain`, `WFTree`;
* `P.SemX` (C03): trees with `Int` operand indices and `String` names, `load`, `denote`, `loadText`.

`toPegTree` converts a built script to C07's tree type; `P.SemX.ofPegTree` converts on to C03's tree type. -/
namespace P.TextCompose
open P.BuildX

def toPegExpr : P.Sem.Expr → P.PegF.Expr
  | .operand i => .operand (i : Int)
  | .ident s => .ident s.toList
  | .add x y => .add (toPegExpr x) (toPegExpr y)
  | .shift x s => .shift (toPegExpr x) s
  | .double x => .double (toPegExpr x)

def toPegStmt (st : P.Sem.Stmt) : P.PegF.Stmt := ⟨st.name.toList, toPegExpr st.e⟩

/-- a script of the builder model as a tree of the parser / printer model -/
def toPegTree (s : Script) : P.PegF.Tree := s.map toPegStmt

def toXExpr : P.Sem.Expr → P.SemX.Expr
  | .operand i => .operand (i : Int)
  | .ident s => .ident s
  | .add x y => .add (toXExpr x) (toXExpr y)
  | .shift x s => .shift (toXExpr x) s
  | .double x => .double (toXExpr x)

def toXStmt (st : P.Sem.Stmt) : P.SemX.Stmt := ⟨st.name, toXExpr st.e⟩

/-- a script of the builder model as a tree of the loader model -/
def toXTree (s : Script) : P.SemX.Tree := s.map toXStmt

theorem ofPegExpr_toPegExpr (e : P.Sem.Expr) : P.SemX.ofPegExpr (toPegExpr e) = toXExpr e := by
  induction e with
  | operand i => rfl
  | ident s => simp [toPegExpr, toXExpr, P.SemX.ofPegExpr]
  | add x y ihx ihy => simp [toPegExpr, toXExpr, P.SemX.ofPegExpr, ihx, ihy]
  | shift x s ihx => simp [toPegExpr, toXExpr, P.SemX.ofPegExpr, ihx]
  | double x ihx => simp [toPegExpr, toXExpr, P.SemX.ofPegExpr, ihx]

theorem ofPegTree_toPegTree (s : Script) : P.SemX.ofPegTree (toPegTree s) = toXTree s := by
  unfold P.SemX.ofPegTree toPegTree toXTree
  rw [List.map_map]
  apply List.map_congr_left
  intro st _
  simp [toPegStmt, toXStmt, ofPegExpr_toPegExpr]

/-! ## the direct semantics of C04 (`P.Sem`) is the direct semantics of C03 (`P.SemX`) -/

def envX (env : P.Sem.Env) : P.SemX.Env := env.map fun kv => (kv.1, (kv.2 : Int))

theorem lookup_envX (env : P.Sem.Env) (s : String) :
    P.SemX.lookup (envX env) s = (P.Sem.lookup env s).map fun v => (v : Int) := by
  unfold P.SemX.lookup P.Sem.lookup envX
  induction env with
  | nil => rfl
  | cons kv r ih =>
    simp only [List.map_cons, List.find?_cons]
    cases hk : kv.1 == s with
    | true => simp
    | false => simpa using ih

theorem pAdd_sim {p p' : P.Sem.Prog} {i j o : Nat} (h : P.Sem.pAdd p i j = some (p', o)) :
    P.SemX.pAdd p (i : Int) (j : Int) = .ok (p', (o : Int)) := by
  obtain ⟨hi, hj, rfl, rfl⟩ := P.Sem.pAdd_eq_some.1 h
  unfold P.SemX.pAdd
  rw [if_neg (Int.not_lt.2 (Int.natCast_nonneg i)), if_neg (Int.not_lt.2 (Int.ofNat_le.2 hi)),
    if_neg (Int.not_lt.2 (Int.natCast_nonneg j)), if_neg (Int.not_lt.2 (Int.ofNat_le.2 hj))]
  simp

/-- the addition step of C03's semantics sorts its operands itself -/
theorem step_sorted_sim {p p' : P.Sem.Prog} {a b o : Nat} (h : P.Sem.pAdd p (min a b) (max a b) = some (p', o)) :
    P.SemX.step (P.SemX.mk p) a b = some (P.SemX.mk p', (o : Int)) := by
  have hs := pAdd_sim h
  rw [P.SemX.step_sim]
  by_cases hab : (a : Int) > (b : Int)
  · have hba : b ≤ a := Nat.le_of_lt (Int.ofNat_lt.1 hab)
    rw [Nat.min_eq_right hba, Nat.max_eq_left hba] at hs
    rw [if_pos hab, hs]
  · have hba : a ≤ b := Int.ofNat_le.1 (Int.not_lt.1 hab)
    rw [Nat.min_eq_left hba, Nat.max_eq_right hba] at hs
    rw [if_neg hab, hs]

theorem pShift_sim : ∀ (s : Nat) (p p' : P.Sem.Prog) (i o : Nat), P.Sem.pShift s p i = some (p', o) →
    P.SemX.pShift s p (i : Int) = .ok (p', (o : Int)) := by
  intro s
  induction s with
  | zero => intro p p' i o h; rw [P.Sem.pShift] at h; cases h; rfl
  | succ s ih =>
    intro p p' i o h
    rw [P.Sem.pShift] at h
    split at h
    · cases h
    · rename_i p1 i1 h1
      simp only [P.SemX.pShift, pAdd_sim h1]
      exact ih p1 p' i1 o h

theorem dExpr_sim (env : P.Sem.Env) (e : P.Sem.Expr) (p p' : P.Sem.Prog) (x : Nat)
    (h : P.Sem.dExpr p env e = some (p', x)) :
    P.SemX.dExpr (P.SemX.mk p) (envX env) (toXExpr e) = some (P.SemX.mk p', (x : Int)) ∧
    p'.length = p.length + P.SemX.weight (toXExpr e) := by
  -- the branches of `dExpr`: operand; identifier; `add` (x fails, y fails, both evaluate); `double` (x fails,
  -- evaluates); `shift` (x fails, by 0 of the last element, by 0 of another element, by `s ≥ 1`)
  fun_induction P.Sem.dExpr p env e generalizing p' x with
  | case1 p i => cases h; exact ⟨rfl, rfl⟩
  | case2 p s =>
    cases hl : P.Sem.lookup env s with
    | none => rw [hl] at h; cases h
    | some v =>
      rw [hl] at h
      cases h
      refine ⟨?_, rfl⟩
      simp only [toXExpr, P.SemX.dExpr, lookup_envX, hl]
      rfl
  | case3 => cases h
  | case4 => cases h
  | case5 p x0 y p1 a hx p2 b hy ihx ihy =>
    obtain ⟨ex, wx⟩ := ihx p1 a hx
    obtain ⟨ey, wy⟩ := ihy p2 b hy
    refine ⟨?_, ?_⟩
    · simp only [toXExpr, P.SemX.dExpr, ex, ey, step_sorted_sim h]
    · obtain ⟨_, _, rfl, _⟩ := P.Sem.pAdd_eq_some.1 h
      simp only [toXExpr, P.SemX.weight, List.length_append, List.length_singleton, wy, wx, Nat.add_assoc]
  | case6 => cases h
  | case7 p x0 p1 a hx ihx =>
    obtain ⟨ex, wx⟩ := ihx p1 a hx
    refine ⟨?_, ?_⟩
    · simp only [toXExpr, P.SemX.dExpr, ex, step_sorted_sim (a := a) (b := a) (by rwa [Nat.min_self, Nat.max_self])]
    · obtain ⟨_, _, rfl, _⟩ := P.Sem.pAdd_eq_some.1 h
      simp only [toXExpr, P.SemX.weight, List.length_append, List.length_singleton, wx, Nat.add_assoc]
  | case8 => cases h
  | case9 p x0 p1 hx ihx =>
    cases h
    obtain ⟨ex, wx⟩ := ihx p1 _ hx
    refine ⟨?_, wx⟩
    have : ((p1.length : Nat) : Int) = ((P.SemX.mk p1).chain.length : Int) - 1 := by
      simp only [P.SemX.mk, P.SemX.evaluate_length, Int.natCast_add, Int.natCast_one, Int.add_sub_cancel]
    simp only [toXExpr, P.SemX.dExpr, ex, if_true, if_pos this]
  | case10 => cases h
  | case11 p x0 s p1 a hx hs ihx =>
    obtain ⟨ex, wx⟩ := ihx p1 a hx
    refine ⟨?_, ?_⟩
    · simp only [toXExpr, P.SemX.dExpr, ex]
      rw [if_neg hs, P.SemX.doubles_sim, pShift_sim s p1 p' a x h]
    · simp only [toXExpr, P.SemX.weight, (P.Sem.pShift_pos_some (Nat.pos_of_ne_zero hs) h).2.1, wx, Nat.add_assoc]

theorem dRun_sim : ∀ (ss : List P.Sem.Stmt) (p : P.Sem.Prog) (env : P.Sem.Env) (res : P.Sem.Prog × P.Sem.Env),
    P.Sem.dRun p env ss = some res →
    P.SemX.dStmts (P.SemX.mk p) (envX env) (toXTree ss) = some (P.SemX.mk res.1) ∧
    res.1.length = p.length + P.SemX.weightS (toXTree ss) := by
  intro ss
  induction ss with
  | nil => intro p env res h; cases h; exact ⟨rfl, rfl⟩
  | cons st r ih =>
    intro p env res h
    obtain ⟨p1, x, hd, hl, hr⟩ := P.Sem.dRun_cons_some h
    obtain ⟨e1, w1⟩ := dExpr_sim env st.e p p1 x hd
    obtain ⟨e2, w2⟩ := ih p1 ((st.name, x) :: env) res hr
    refine ⟨?_, ?_⟩
    · simp only [toXTree, List.map_cons, P.SemX.dStmts, toXStmt, e1, lookup_envX, hl]
      exact e2
    · rw [w2, w1, Nat.add_assoc]; rfl

theorem denote_of_dStmts (s : Script) (q : P.Sem.Prog) (h : P.Sem.dStmts [] [] s = some q) :
    P.SemX.denote (toXTree s) = some (P.SemX.mk q) ∧ P.SemX.weightS (toXTree s) = q.length := by
  rw [← P.Sem.dRun_dStmts, Option.map_eq_some_iff] at h
  obtain ⟨res, hr, rfl⟩ := h
  obtain ⟨h1, h2⟩ := dRun_sim s [] [] res hr
  exact ⟨h1, by simpa using h2.symm⟩

/-! ## the shape of built scripts

A built script consists of operator statements over generated names (`P.BuildX.Built.shape`, from the
builder invariant).  The numeric part comes from the fact that the script evaluates: operand indices and
shift amounts in an operator expression that evaluates are bounded by the length of the resulting program. -/

/-- operand indices and shift amounts are at most `N` -/
def Bnd (N : Nat) : P.Sem.Expr → Prop
  | .operand k => k ≤ N
  | .ident _ => True
  | .add x y => Bnd N x ∧ Bnd N y
  | .shift x s => Bnd N x ∧ s ≤ N
  | .double x => Bnd N x

theorem dExpr_bnd (env : P.Sem.Env) (e : P.Sem.Expr) (p p' : P.Sem.Prog) (x : Nat)
    (h : P.Sem.dExpr p env e = some (p', x)) :
    p.length ≤ p'.length ∧ (P.Sem.isOpE e = true → x ≤ p'.length) ∧
    ∀ N, p'.length ≤ N → x ≤ N → Bnd N e := by
  fun_induction P.Sem.dExpr p env e generalizing p' x with
  | case1 p i => cases h; exact ⟨Nat.le_refl _, nofun, fun N _ hx => hx⟩
  | case2 p s =>
    cases hl : P.Sem.lookup env s with
    | none => rw [hl] at h; cases h
    | some v => rw [hl] at h; cases h; exact ⟨Nat.le_refl _, nofun, fun N _ _ => trivial⟩
  | case3 => cases h
  | case4 => cases h
  | case5 p x0 y p1 a hx p2 b hy ihx ihy =>
    obtain ⟨lx, _, bx⟩ := ihx p1 a hx
    obtain ⟨ly, _, by'⟩ := ihy p2 b hy
    obtain ⟨_, h2, rfl, rfl⟩ := P.Sem.pAdd_eq_some.1 h
    have ha : a ≤ p2.length := Nat.le_trans (Nat.le_max_left a b) h2
    have hb : b ≤ p2.length := Nat.le_trans (Nat.le_max_right a b) h2
    rw [List.length_append, List.length_singleton]
    refine ⟨Nat.le_succ_of_le (Nat.le_trans lx ly), fun _ => Nat.le_refl _, fun N hN _ => ?_⟩
    have hN' := Nat.le_of_succ_le hN
    exact ⟨bx N (Nat.le_trans ly hN') (Nat.le_trans ha hN'), by' N hN' (Nat.le_trans hb hN')⟩
  | case6 => cases h
  | case7 p x0 p1 a hx ihx =>
    obtain ⟨lx, _, bx⟩ := ihx p1 a hx
    obtain ⟨h1, _, rfl, rfl⟩ := P.Sem.pAdd_eq_some.1 h
    rw [List.length_append, List.length_singleton]
    exact ⟨Nat.le_succ_of_le lx, fun _ => Nat.le_refl _, fun N hN _ =>
      bx N (Nat.le_of_succ_le hN) (Nat.le_trans h1 (Nat.le_of_succ_le hN))⟩
  | case8 => cases h
  | case9 p x0 p1 hx ihx =>
    cases h
    obtain ⟨lx, _, bx⟩ := ihx p1 _ hx
    exact ⟨lx, fun _ => Nat.le_refl _, fun N hN hxN => ⟨bx N hN hxN, Nat.zero_le _⟩⟩
  | case10 => cases h
  | case11 p x0 s p1 a hx hs ihx =>
    obtain ⟨lx, _, bx⟩ := ihx p1 a hx
    obtain ⟨hb, hl, ho⟩ := P.Sem.pShift_pos_some (Nat.pos_of_ne_zero hs) h
    have h1 : p1.length ≤ p'.length := hl ▸ Nat.le_add_right _ _
    have h2 : s ≤ p'.length := hl ▸ Nat.le_add_left _ _
    exact ⟨Nat.le_trans lx h1, fun _ => Nat.le_of_eq ho, fun N hN _ =>
      ⟨bx N (Nat.le_trans h1 hN) (Nat.le_trans hb (Nat.le_trans h1 hN)), Nat.le_trans h2 hN⟩⟩

theorem dRun_bnd : ∀ (ss : List P.Sem.Stmt) (p : P.Sem.Prog) (env : P.Sem.Env) (res : P.Sem.Prog × P.Sem.Env),
    P.Sem.dRun p env ss = some res →
    p.length ≤ res.1.length ∧ ∀ st ∈ ss, P.Sem.isOpE st.e = true → Bnd res.1.length st.e := by
  intro ss
  induction ss with
  | nil => intro p env res h; cases h; exact ⟨Nat.le_refl _, nofun⟩
  | cons st r ih =>
    intro p env res h
    obtain ⟨p1, x, hd, _, hr⟩ := P.Sem.dRun_cons_some h
    obtain ⟨l1, hop, hb⟩ := dExpr_bnd env st.e p p1 x hd
    obtain ⟨l2, hall⟩ := ih p1 _ res hr
    refine ⟨Nat.le_trans l1 l2, ?_⟩
    intro s hs hso
    rcases List.mem_cons.mp hs with rfl | hs
    · exact hb _ l2 (Nat.le_trans (hop hso) l2)
    · exact hall s hs hso

/-- a generated name is a legal identifier and does not begin with `d` (so never with `dbl`) -/
theorem genName_ok (chain : List Int) (nm : String) (h : ∃ k, nm = nameS chain k) :
    P.Peg.ValidIdent nm.toList ∧ P.PegF.SafeIdent nm.toList := by
  obtain ⟨k, rfl⟩ := h
  obtain ⟨t, ds, e, ht, hd⟩ := nameL_shape chain k
  have htl : (nameS chain k).toList = t :: ds := by rw [← e]; simp [nameS]
  have hl := P.Naming.legal_of_shape ht hd
  -- `P.Naming.isIdStart` / `isIdChar` and `P.Peg.isIdStart` / `isIdChar` are the same functions
  refine ⟨⟨t, ds, htl, hl.1, hl.2⟩, ?_⟩
  intro c' t' e'
  rw [htl] at e'
  rcases ht with rfl | rfl | rfl <;> exact absurd (List.cons.inj e').1 (by decide)

theorem toPegExpr_wf {G : String → Prop} (hG : ∀ s, G s → P.Peg.ValidIdent s.toList ∧ P.PegF.SafeIdent s.toList)
    (N : Nat) (hN : N < 2 ^ 63) : ∀ (e : P.Sem.Expr) (b : Bool),
    P.Sem.IdsIn G e → Bnd N e → P.PegF.WF b (toPegExpr e) := by
  intro e
  induction e with
  | operand i =>
    intro b _ hb
    simp only [Bnd] at hb
    exact .operand b _ (by omega) (by omega)
  | ident s =>
    intro b hs _
    exact .ident b _ (hG s hs).1 (fun _ => (hG s hs).2)
  | add x y ihx ihy =>
    intro b hs hb
    exact .add b _ _ (ihx true hs.1 hb.1) (ihy true hs.2 hb.2)
  | shift x s ihx =>
    intro b hs hb
    simp only [Bnd] at hb
    exact .shift b _ _ (ihx false hs hb.1) (by omega)
  | double x ihx =>
    intro b hs hb
    exact .double b _ (ihx false hs hb)

/-- the script `Build` produces, converted to C07's tree type, is in the domain of the printer
    round trip — provided the program has fewer than `2^63` operations (an operand index printed as
    `[k]` must be below `2^63` and a shift amount below `2^64` to parse back to the same number) -/
theorem built_wfTree (ir : IR) (p : P.Sem.Prog)
    (hs : ∀ inst ∈ ir, ∀ x s, inst.op = .shl x s → 1 ≤ s)
    (hc : P.Sem.cAll [] ir = some p) (hnd : (P.evaluate p).Nodup) (hsz : p.length < 2 ^ 63)
    (s : Script) (hb : buildX ir = .ok s) : P.PegF.WFTree (toPegTree s) := by
  obtain ⟨env, hB⟩ := built_of hs hc hnd hb
  obtain ⟨e, hlast⟩ := hB.last
  obtain ⟨_, hbnd⟩ := dRun_bnd s [] [] _ hB.run
  simp only [List.length_map] at hbnd
  have hwf : ∀ st ∈ s, P.PegF.WF true (toPegExpr st.e) := by
    intro st hst
    obtain ⟨h1, h2 | h2⟩ := hB.shape st hst
    · exact toPegExpr_wf (genName_ok _) p.length hsz st.e true h1 (hbnd st hst h2)
    · rw [h2]
      exact .operand true _ (by decide) (by decide)
  have hsplit : s = s.dropLast ++ [⟨"", e⟩] := by
    have h1 := List.dropLast_concat_getLast hB.ne
    rw [List.getLast?_eq_some_getLast hB.ne] at hlast
    rw [Option.some.inj hlast] at h1
    exact h1.symm
  refine ⟨toPegTree s.dropLast, toPegExpr e, ?_, ?_, ?_⟩
  · conv => lhs; rw [hsplit]
    simp [toPegTree, toPegStmt]
  · intro st hst
    simp only [toPegTree, List.mem_map] at hst
    obtain ⟨st0, hst0, rfl⟩ := hst
    obtain ⟨k, hk, _, _⟩ := hB.named st0 hst0
    exact ⟨(genName_ok (P.evaluate p) st0.name ⟨k, hk⟩).1,
      hwf st0 ((List.dropLast_sublist _).subset hst0)⟩
  · exact hwf ⟨"", e⟩ (by rw [hsplit]; simp)

/-- `printer.String` of a built script -/
def printScript (s : Script) : List Char := P.PegF.printChain (toPegTree s)

/-- `acc.LoadString`, keeping the operation list of the loaded program -/
def loadOps (t : List Char) : Option P.Sem.Prog := (P.SemX.loadText t).toOption.map (·.ops)

theorem evaluate_cast (q : P.Sem.Prog) :
    (P.SemX.evaluate q).map (fun n : Nat => (n : Int)) = P.evaluate q := by
  have key : ∀ (q : P.Sem.Prog) (c : List Nat),
      (q.foldl P.SemX.evalStep c).map (fun n : Nat => (n : Int)) =
      q.foldl (fun c o => c ++ [P.at' c o.1 + P.at' c o.2]) (c.map fun n : Nat => (n : Int)) := by
    intro q
    induction q with
    | nil => intro c; rfl
    | cons o r ih =>
      intro c
      simp only [List.foldl_cons]
      rw [ih]
      congr 1
      simp only [P.SemX.evalStep, List.map_append, List.map_cons, List.map_nil, P.at'_map (fun n : Nat => (n : Int)) 0 rfl]
      rfl
  unfold P.SemX.evaluate P.evaluate
  exact key q [1]

/-- **C04, text level, for `Build` on any IR program**: if `ir` compiles to `p`, contains no shift by
    zero, the chain of `p` has pairwise distinct values and fewer than `2^63` elements, then `Build`
    succeeds; the resulting script is in the domain of C07's round trip; its printed text parses back to
    the script; and loading the printed text (`parse`, `Translate`, `pass.Compile`, `Evaluate`) succeeds
    with the operation list `p` (addition operands sorted) and the chain `evaluate p`. -/
theorem C04_text_build (ir : IR) (p : P.Sem.Prog)
    (hs : ∀ inst ∈ ir, ∀ x s, inst.op = .shl x s → 1 ≤ s)
    (hc : P.Sem.cAll [] ir = some p) (hnd : (P.evaluate p).Nodup) (hsz : p.length + 1 < 2 ^ 63) :
    ∃ s, buildX ir = .ok s ∧ P.PegF.WFTree (toPegTree s) ∧
      P.PegF.parse (printScript s) = .ok (toPegTree s) ∧
      P.SemX.loadText (printScript s) = .ok ⟨P.SemX.evaluate (p.map P.Sem.norm), p.map P.Sem.norm⟩ ∧
      (P.SemX.evaluate (p.map P.Sem.norm)).map (fun n : Nat => (n : Int)) = P.evaluate p := by
  obtain ⟨s, hb, hd⟩ := AC.Props.C04.C04_build_denotes ir p hs hc hnd
  have hwf := built_wfTree ir p hs hc hnd (Nat.lt_of_succ_lt hsz) s hb
  have hparse : P.PegF.parse (printScript s) = .ok (toPegTree s) := AC.Props.C07.C07_roundtrip _ hwf
  obtain ⟨hden, hw⟩ := denote_of_dStmts s _ hd
  have hsmall : AC.Props.C03.Small (P.SemX.ofPegTree (toPegTree s)) := by
    rw [ofPegTree_toPegTree]
    unfold AC.Props.C03.Small
    rw [hw, List.length_map]
    omega
  have hload := AC.Props.C03.C03_load_text (printScript s) (toPegTree s) hparse hsmall
  rw [ofPegTree_toPegTree, hden] at hload
  refine ⟨s, hb, hwf, hparse, AC.Props.C07.ok_of_toOption hload, ?_⟩
  rw [evaluate_cast, evaluate_map_norm]

/-- **C04, text level** (`C04_text_Statement` of `AC/Props/C04.lean` with the concrete printer and loader
    models, plus the size bound those models need): for every program `p` with in-range operands whose
    chain has pairwise distinct values and fewer than `2^63` elements, `Decompile` and `Build` succeed,
    and printing the script and loading that text yields the chain `evaluate p` and the program `p` with
    the operands of each addition sorted.

    The size bound cannot be dropped for these models: a run of `2^64` doublings is decompiled to one
    shift whose amount prints as `18446744073709551616`, which `strconv.ParseUint(…, 64)` (and the
    parser model) rejects; an operand index `≥ 2^63` would wrap to a negative `int` (F8). No Go slice
    holds that many operations. -/
theorem C04_text (p : P.Sem.Prog) (h : P.Sem.InRange p 0) (hnd : (P.evaluate p).Nodup)
    (hsz : p.length + 1 < 2 ^ 63) :
    ∃ ir s, decompileX p = .ok ir ∧ buildX ir = .ok s ∧ P.PegF.WFTree (toPegTree s) ∧
      P.PegF.parse (printScript s) = .ok (toPegTree s) ∧
      P.SemX.loadText (printScript s) = .ok ⟨P.SemX.evaluate (p.map P.Sem.norm), p.map P.Sem.norm⟩ ∧
      (P.SemX.evaluate (p.map P.Sem.norm)).map (fun n : Nat => (n : Int)) = P.evaluate p := by
  obtain ⟨s, hb, h1, h2, h3, h4⟩ := C04_text_build (P.Sem.decompile p) p
    (P.Sem.decompileFrom_shl_pos p p.length p 0) (P.Sem.compile_decompile p h) hnd hsz
  exact ⟨P.Sem.decompile p, s, decompileX_ok p h, hb, h1, h2, h3, h4⟩

/-- `AC.Props.C04.C04_text_Statement` restricted to programs of fewer than `2^63 - 1` operations -/
def C04_text_Statement_sized (print : Script → List Char) (load : List Char → Option P.Sem.Prog) : Prop :=
  ∀ p : P.Sem.Prog, P.Sem.InRange p 0 → (P.evaluate p).Nodup → p.length + 1 < 2 ^ 63 →
    ∃ ir s, decompileX p = .ok ir ∧ buildX ir = .ok s ∧ load (print s) = some (p.map P.Sem.norm)

/-- the sized text-level statement holds for the printer model of C07 and the loader model of C03 -/
theorem C04_text_Statement_sized_holds : C04_text_Statement_sized printScript loadOps := by
  intro p h hnd hsz
  obtain ⟨ir, s, h1, h2, _, _, h5, _⟩ := C04_text p h hnd hsz
  exact ⟨ir, s, h1, h2, by simp [loadOps, h5, Except.toOption]⟩

theorem nonNeg_of_wf : ∀ {b : Bool} {e : P.PegF.Expr}, P.PegF.WF b e → P.PegF.NonNeg e := by
  intro b e h
  induction h with
  | operand b i h1 h2 => exact h1
  | ident b s h1 h2 => trivial
  | add b x y _ _ ihx ihy => exact ⟨ihx, ihy⟩
  | shift b x s _ _ ihx => exact ihx
  | double b x _ ihx => exact ihx

theorem nonNegTree_of_wfTree {t : P.PegF.Tree} (h : P.PegF.WFTree t) : P.PegF.NonNegTree t := by
  obtain ⟨as, x, rfl, hall, hx⟩ := h
  intro st hst
  rcases List.mem_append.mp hst with h1 | h1
  · exact nonNeg_of_wf (hall st h1).2
  · rw [List.mem_singleton.mp h1]; exact nonNeg_of_wf hx

/-- `parse.String`, restricted to results without a wrapped (negative) operand index — for a parser
    result this is exactly `WFTree` (`C07_parse_image_wf`, `C07_wfTreeB_iff`) -/
def parseWF (s : List Char) : Option P.PegF.Tree :=
  match P.PegF.parse s with
  | .ok t => if P.PegF.wfTreeB t then some t else none
  | .error _ => none

theorem parseWF_some {s : List Char} {t : P.PegF.Tree} (h : parseWF s = some t) :
    P.PegF.parse s = .ok t ∧ P.PegF.WFTree t := by
  unfold parseWF at h
  split at h
  · rename_i t' hp
    split at h
    · rename_i hw
      injection h with h
      subst h
      exact ⟨hp, (AC.Props.C07.C07_wfTreeB_iff _).mp hw⟩
    · cases h
  · cases h

theorem parseWF_of {s : List Char} {t : P.PegF.Tree} (hp : P.PegF.parse s = .ok t) (hn : P.PegF.NonNegTree t) :
    parseWF s = some t := by
  have hw := (AC.Props.C07.C07_wfTreeB_iff t).mpr (AC.Props.C07.C07_parse_image_wf s t hp hn)
  unfold parseWF
  rw [hp]
  simp [hw]

/-- the hypothesis of `C06_script_reloads`, discharged by `C07_fmt_preserves_tree` -/
theorem parseWF_fmt (s : List Char) (t : P.PegF.Tree) (h : parseWF s = some t) :
    parseWF (P.PegF.printChain t) = some t := by
  obtain ⟨hp, hw⟩ := parseWF_some h
  have hn := nonNegTree_of_wfTree hw
  have h7 := AC.Props.C07.C07_fmt_preserves_tree s t hp hn
  exact parseWF_of (h7.trans hp) hn

/-- the chain a tree loads to: `Translate`, `pass.Compile`, `Evaluate` -/
def evalTree (t : P.PegF.Tree) : Option (List Nat) :=
  (P.SemX.load (P.SemX.ofPegTree t)).toOption.map (·.chain)

/-- **The `script` output re-loads to the same chain** (`C06_script_reloads` instantiated with the parser
    and printer models of C07, the loader model of C03 and `C07_fmt_preserves_tree`): if the source
    text `s` parses to `t` and `t` loads to the chain `c`, then the text the `script` template emits —
    `printer.String t` — loads (`acc.LoadString`) to `c`.

    `NonNegTree t` (no operand index wrapped to a negative `int`) is needed: `return [18446744073709551615]`
    parses to `Operand(-1)`, loads to the chain `[1]`, and is printed as `return [-1]`, which does not
    parse (finding F8). -/
theorem C06_script_reloads_inst (s : List Char) (t : P.PegF.Tree) (c : List Nat)
    (hp : P.PegF.parse s = .ok t) (hn : P.PegF.NonNegTree t) (he : evalTree t = some c) :
    (P.SemX.loadText (P.PegF.printChain t)).toOption.map (·.chain) = some c := by
  have h := AC.Props.C06.C06_script_reloads parseWF P.PegF.printChain evalTree parseWF_fmt s t c
    (parseWF_of hp hn) he
  cases hq : parseWF (P.PegF.printChain t) with
  | none => rw [hq] at h; cases h
  | some t' =>
    rw [hq] at h
    have hpp := (parseWF_some hq).1
    simp only [Option.bind_some, evalTree] at h
    cases hl : P.SemX.load (P.SemX.ofPegTree t') with
    | error e => rw [hl] at h; simp [Except.toOption] at h
    | ok st =>
      rw [hl] at h
      have hc : st.chain = c := by simpa [Except.toOption] using h
      unfold P.SemX.loadText
      rw [hpp]
      simp only [hl]
      simp [Except.toOption, hc]

/-- the same for the whole load result (chain and operation list) -/
theorem C06_script_reloads_state (s : List Char) (t : P.PegF.Tree) (st : P.SemX.St)
    (hp : P.PegF.parse s = .ok t) (hn : P.PegF.NonNegTree t)
    (he : P.SemX.load (P.SemX.ofPegTree t) = .ok st) :
    P.SemX.loadText (P.PegF.printChain t) = .ok st := by
  have h7 := AC.Props.C07.C07_fmt_preserves_tree s t hp hn
  unfold P.SemX.loadText
  rw [h7, hp]
  simp only [he]

end P.TextCompose
