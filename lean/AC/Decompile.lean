import AC.Sem
/-! C04 prototype (first half): `acc.Decompile` expands back to exactly the original program. -/
namespace P.Sem

def isDouble (o : Nat × Nat) : Bool := o.1 == o.2
def uses (o : Nat × Nat) (i : Nat) : Bool := o.1 == i || o.2 == i

/-- `Program.ReadCounts`: a doubling counts once -/
def readCount (p : Prog) (i : Nat) : Nat := p.countP (fun o => uses o i)

/-- number of further ops, starting at position `j` of the full program, that are doublings of
    the previous element which nothing else reads: the `for` look-ahead of Decompile -/
def runLen (full : Prog) : List (Nat × Nat) → Nat → Nat
  | [], _ => 0
  | o :: r, j => if readCount full j == 1 && o == (j, j) then 1 + runLen full r (j + 1) else 0

/-- Decompile from position `i` (the remaining ops are `rest`), with fuel = remaining length -/
def decompileFrom (full : Prog) : Nat → List (Nat × Nat) → Nat → List Inst
  | 0, _, _ => []
  | _, [], _ => []
  | fuel+1, o :: r, i =>
    if !isDouble o then ⟨i + 1, .add o.1 o.2⟩ :: decompileFrom full fuel r (i + 1)
    else
      let extra := runLen full r (i + 1)
      if extra = 0 then ⟨i + 1, .dbl o.1⟩ :: decompileFrom full fuel r (i + 1)
      else ⟨i + 1 + extra, .shl o.1 (extra + 1)⟩ :: decompileFrom full fuel (r.drop extra) (i + 1 + extra)

def decompile (p : Prog) : List Inst := decompileFrom p p.length p 0

/-- every operand refers to an existing element -/
def InRange : Prog → Nat → Prop
  | [], _ => True
  | o :: r, k => o.1 ≤ k ∧ o.2 ≤ k ∧ InRange r (k + 1)

theorem pAdd_eq_some {p p' : Prog} {i j o : Nat} :
    pAdd p i j = some (p', o) ↔ i ≤ p.length ∧ j ≤ p.length ∧ p' = p ++ [(i, j)] ∧ o = p.length + 1 := by
  unfold pAdd
  split
  · rename_i h
    simp only [Option.some.injEq, Prod.mk.injEq, h.1, h.2, true_and]
    exact ⟨fun e => ⟨e.1.symm, e.2.symm⟩, fun e => ⟨e.1.symm, e.2.symm⟩⟩
  · rename_i h
    exact ⟨nofun, fun e => absurd ⟨e.1, e.2.1⟩ h⟩

/-- a run of doublings `(j, j), (j+1, j+1), …`, one element shorter -/
theorem diag_succ (j n : Nat) : (List.range (n + 1)).map (fun t => (j + t, j + t)) =
    (j, j) :: (List.range n).map (fun t => (j + 1 + t, j + 1 + t)) := by
  rw [List.range_succ_eq_map, List.map_cons, List.map_map]
  refine congrArg _ (List.map_congr_left fun t _ => ?_)
  simp only [Function.comp, Nat.succ_eq_add_one, Nat.add_assoc, Nat.add_comm 1]

theorem pShift_succ_of_le {s : Nat} {p : Prog} {x : Nat} (hx : x ≤ p.length) :
    pShift (s + 1) p x = pShift s (p ++ [(x, x)]) (p.length + 1) := by
  rw [pShift, pAdd_eq_some.2 ⟨hx, hx, rfl, rfl⟩]

theorem pShift_doubles : ∀ (s : Nat) (p : Prog) (x : Nat), x ≤ p.length →
    pShift (s + 1) p x = some (p ++ (x, x) :: (List.range s).map (fun t => (p.length + 1 + t, p.length + 1 + t)),
      p.length + s + 1) := by
  intro s
  induction s with
  | zero =>
    intro p x hx
    rw [pShift_succ_of_le hx]
    rfl
  | succ s ih =>
    intro p x hx
    rw [pShift_succ_of_le hx, ih (p ++ [(x, x)]) (p.length + 1) (by simp), diag_succ]
    simp [Nat.add_assoc, Nat.add_comm 1]

theorem pShift_le {s : Nat} {p : Prog} {x : Nat} {r : Prog × Nat} (h : pShift (s + 1) p x = some r) :
    x ≤ p.length := by
  rw [pShift] at h
  split at h
  · cases h
  · rename_i h1; exact (pAdd_eq_some.1 h1).1

theorem pShift_pos_some {s : Nat} {p p' : Prog} {x o : Nat} (hs : 1 ≤ s) (h : pShift s p x = some (p', o)) :
    x ≤ p.length ∧ p'.length = p.length + s ∧ o = p'.length := by
  obtain ⟨s', rfl⟩ := Nat.exists_eq_add_one_of_ne_zero (Nat.ne_of_gt hs)
  have hx := pShift_le h
  rw [pShift_doubles s' p x hx] at h
  cases h
  simp [hx, Nat.add_assoc]

/-- the program operation an IR operation stands for -/
def opRun (p : Prog) : Op → Option (Prog × Nat)
  | .add x y => pAdd p x y
  | .dbl x => pAdd p x x
  | .shl x s => pShift s p x

theorem cInst_eq_some {p p' : Prog} {inst : Inst} :
    cInst p inst = some p' ↔ opRun p inst.op = some (p', inst.out) := by
  have : cInst p inst = match opRun p inst.op with
      | none => none
      | some (q, out) => if out = inst.out then some q else none := by
    unfold cInst opRun; cases inst.op <;> rfl
  rw [this]
  cases opRun p inst.op with
  | none => simp
  | some r =>
    obtain ⟨q, out⟩ := r
    by_cases h : out = inst.out <;> simp [h]

theorem runLen_le (full : Prog) (r : List (Nat × Nat)) (j : Nat) : runLen full r j ≤ r.length := by
  fun_induction runLen full r j with
  | case1 j => exact Nat.le_refl 0
  | case2 o r j h ih => rw [Nat.add_comm 1]; exact Nat.succ_le_succ ih
  | case3 o r j h => exact Nat.zero_le _

theorem runLen_spec (full : Prog) : ∀ (r : List (Nat × Nat)) (j : Nat),
    r.take (runLen full r j) = (List.range (runLen full r j)).map (fun t => (j + t, j + t)) := by
  intro r j
  fun_induction runLen full r j with
  | case1 j => rfl
  | case2 o r j h ih =>
    simp only [Bool.and_eq_true, beq_iff_eq] at h
    rw [Nat.add_comm 1, List.take_succ_cons, diag_succ, ih, h.2]
  | case3 o r j h => rfl

theorem runLen_reads (full : Prog) (r : List (Nat × Nat)) (j t : Nat) (ht : t < runLen full r j) :
    readCount full (j + t) = 1 := by
  fun_induction runLen full r j generalizing t with
  | case1 j => exact absurd ht (Nat.not_lt_zero t)
  | case2 o r j h ih =>
    simp only [Bool.and_eq_true, beq_iff_eq] at h
    cases t with
    | zero => exact h.1
    | succ t =>
      rw [Nat.add_comm 1] at ht
      have := ih t (Nat.lt_of_succ_lt_succ ht)
      rwa [Nat.add_assoc, Nat.add_comm 1] at this
  | case3 o r j h => exact absurd ht (Nat.not_lt_zero t)

/-- the folded intermediates are read once, namely by the doubling that was folded: nothing after the run reads them -/
theorem runLen_unread (full pre : Prog) (o : Nat × Nat) (r : Prog) (hf : full = pre ++ o :: r) (t : Nat)
    (ht : t < runLen full r (pre.length + 1)) :
    ∀ o' ∈ r.drop (runLen full r (pre.length + 1)), uses o' (pre.length + 1 + t) = false := by
  have hrc := runLen_reads full r _ t ht
  have hmem : (pre.length + 1 + t, pre.length + 1 + t) ∈ r.take (runLen full r (pre.length + 1)) := by
    rw [runLen_spec]; exact List.mem_map.mpr ⟨t, List.mem_range.2 ht, rfl⟩
  have hpos : 0 < List.countP (fun o => uses o (pre.length + 1 + t)) (r.take (runLen full r (pre.length + 1))) :=
    List.countP_pos_iff.mpr ⟨_, hmem, by simp [uses]⟩
  unfold readCount at hrc
  rw [hf, ← List.take_append_drop (runLen full r (pre.length + 1)) r, List.countP_append, List.countP_cons,
    List.countP_append] at hrc
  intro o' ho'
  have hz : List.countP (fun o => uses o (pre.length + 1 + t)) (r.drop (runLen full r (pre.length + 1))) = 0 := by
    omega
  simpa using List.countP_eq_zero.mp hz o' ho'

theorem inRange_iff : ∀ (r : Prog) (k : Nat),
    InRange r k ↔ ∀ j o, r[j]? = some o → o.1 ≤ k + j ∧ o.2 ≤ k + j := by
  intro r
  induction r with
  | nil => intro k; exact ⟨fun _ j o hj => by simp at hj, fun _ => trivial⟩
  | cons a r ih =>
    intro k
    rw [InRange, ih]
    constructor
    · rintro ⟨h1, h2, h3⟩ j o hj
      cases j with
      | zero => cases hj; exact ⟨h1, h2⟩
      | succ j => rw [← Nat.add_assoc, Nat.add_right_comm]; exact h3 j o hj
    · intro h
      refine ⟨(h 0 a rfl).1, (h 0 a rfl).2, fun j o hj => ?_⟩
      rw [Nat.add_right_comm, Nat.add_assoc]
      exact h (j + 1) o hj

theorem inRange_drop (r : Prog) (k n : Nat) (h : InRange r k) : InRange (r.drop n) (k + n) :=
  (inRange_iff _ _).2 fun j o hj => by
    rw [List.getElem?_drop] at hj
    rw [Nat.add_assoc]
    exact (inRange_iff r k).1 h _ o hj

/-- how many of the doublings after `o` (at position `i`, followed by `r`) are folded into its instruction -/
def folded (full : Prog) (o : Nat × Nat) (r : Prog) (i : Nat) : Nat :=
  if isDouble o then runLen full r (i + 1) else 0

/-- the instruction emitted for `o` -/
def headInst (full : Prog) (o : Nat × Nat) (r : Prog) (i : Nat) : Inst :=
  ⟨i + 1 + folded full o r i,
    if !isDouble o then .add o.1 o.2
    else if folded full o r i = 0 then .dbl o.1 else .shl o.1 (folded full o r i + 1)⟩

theorem headInst_cases (full : Prog) (o : Nat × Nat) (r : Prog) (i : Nat) :
    (isDouble o = false ∧ folded full o r i = 0 ∧ headInst full o r i = ⟨i + 1, .add o.1 o.2⟩) ∨
    (isDouble o = true ∧ folded full o r i = 0 ∧ headInst full o r i = ⟨i + 1, .dbl o.1⟩) ∨
    (isDouble o = true ∧ 0 < folded full o r i ∧
      headInst full o r i = ⟨i + 1 + folded full o r i, .shl o.1 (folded full o r i + 1)⟩) := by
  unfold headInst
  cases hd : isDouble o with
  | false => exact .inl ⟨rfl, by rw [folded, hd]; rfl, by rw [folded, hd]; rfl⟩
  | true =>
    by_cases hk : folded full o r i = 0
    · exact .inr (.inl ⟨rfl, hk, by rw [hk]; rfl⟩)
    · exact .inr (.inr ⟨rfl, Nat.pos_of_ne_zero hk, by rw [if_neg hk]; rfl⟩)

theorem decompileFrom_cons (full : Prog) (fuel : Nat) (o : Nat × Nat) (r : Prog) (i : Nat) :
    decompileFrom full (fuel + 1) (o :: r) i =
      headInst full o r i :: decompileFrom full fuel (r.drop (folded full o r i)) (i + 1 + folded full o r i) := by
  unfold headInst folded
  rw [decompileFrom]
  cases isDouble o with
  | false => rfl
  | true =>
    by_cases h : runLen full r (i + 1) = 0
    · simp [h]
    · simp [h]

theorem folded_le (full : Prog) (o : Nat × Nat) (r : Prog) (i : Nat) : folded full o r i ≤ r.length := by
  unfold folded; split
  · exact runLen_le full r _
  · exact Nat.zero_le _

theorem headInst_shl_pos {full : Prog} {o : Nat × Nat} {r : Prog} {i x s : Nat}
    (h : (headInst full o r i).op = .shl x s) : 1 ≤ s := by
  rcases headInst_cases full o r i with ⟨_, _, e⟩ | ⟨_, _, e⟩ | ⟨_, _, e⟩
  · rw [e] at h; cases h
  · rw [e] at h; cases h
  · rw [e] at h; cases h; exact Nat.succ_pos _

theorem cInst_headInst (full pre : Prog) (o : Nat × Nat) (r : Prog) (h : InRange (o :: r) pre.length) :
    cInst pre (headInst full o r pre.length) = some (pre ++ o :: r.take (folded full o r pre.length)) := by
  obtain ⟨x, y⟩ := o
  obtain ⟨hx, hy, _⟩ := h
  rw [cInst_eq_some]
  rcases headInst_cases full (x, y) r pre.length with ⟨_, hk, e⟩ | ⟨hd, hk, e⟩ | ⟨hd, hk, e⟩
  · rw [e, hk]; exact pAdd_eq_some.2 ⟨hx, hy, rfl, rfl⟩
  · obtain rfl : x = y := by simpa [isDouble] using hd
    rw [e, hk]; exact pAdd_eq_some.2 ⟨hx, hx, rfl, rfl⟩
  · obtain rfl : x = y := by simpa [isDouble] using hd
    rw [e]
    show pShift (folded full (x, x) r pre.length + 1) pre x = _
    rw [pShift_doubles _ pre x hx, folded, if_pos hd, runLen_spec]
    simp only [Nat.add_right_comm]

/-- induction along `Decompile`: `pre` is what has been consumed, the emitted instruction for `o` consumes
    `o` and the doublings folded into it -/
theorem decompileFrom_induct (full : Prog) (M : Prog → Prog → List Inst → Prop)
    (nil : ∀ pre, M pre [] [])
    (cons : ∀ pre o r tail, InRange (o :: r) pre.length →
      M (pre ++ o :: r.take (folded full o r pre.length)) (r.drop (folded full o r pre.length)) tail →
      M pre (o :: r) (headInst full o r pre.length :: tail)) :
    ∀ (fuel : Nat) (pre rest : Prog), rest.length ≤ fuel → InRange rest pre.length →
      M pre rest (decompileFrom full fuel rest pre.length) := by
  intro fuel
  induction fuel with
  | zero =>
    intro pre rest hl _
    obtain rfl : rest = [] := List.eq_nil_of_length_eq_zero (Nat.le_zero.mp hl)
    exact nil pre
  | succ fuel ih =>
    intro pre rest hl hr
    cases rest with
    | nil => exact nil pre
    | cons o r =>
      rw [decompileFrom_cons]
      have hk := folded_le full o r pre.length
      have hpl : (pre ++ o :: r.take (folded full o r pre.length)).length =
          pre.length + 1 + folded full o r pre.length := by
        simp [List.length_take, Nat.min_eq_left hk, Nat.add_assoc, Nat.add_comm 1]
      have := ih (pre ++ o :: r.take (folded full o r pre.length)) (r.drop (folded full o r pre.length))
        (by rw [List.length_drop]; exact Nat.le_trans (Nat.sub_le _ _) (Nat.le_of_succ_le_succ hl))
        (by rw [hpl]; exact inRange_drop r _ _ hr.2.2)
      rw [hpl] at this
      exact cons pre o r _ hr this

theorem compile_decompile (p : Prog) (h : InRange p 0) : cAll [] (decompile p) = some p := by
  refine decompileFrom_induct p (fun pre rest l => p = pre ++ rest → cAll pre l = some p)
    ?_ ?_ p.length [] p (Nat.le_refl _) h rfl
  · intro pre hf
    rw [hf, List.append_nil]; rfl
  · intro pre o r tail hr ih hf
    rw [cAll, cInst_headInst p pre o r hr]
    exact ih (by rw [hf]; simp)

theorem decompileFrom_shl_pos (full : Prog) : ∀ (fuel : Nat) (rest : Prog) (i : Nat),
    ∀ inst ∈ decompileFrom full fuel rest i, ∀ x s, inst.op = .shl x s → 1 ≤ s := by
  intro fuel
  induction fuel with
  | zero => intro rest i inst h; simp [decompileFrom] at h
  | succ fuel ih =>
    intro rest i inst h x s
    cases rest with
    | nil => simp [decompileFrom] at h
    | cons o r =>
      rw [decompileFrom_cons] at h
      rcases List.mem_cons.mp h with rfl | h
      · exact headInst_shl_pos
      · exact ih _ _ inst h x s

end P.Sem
