import AC.ChainSet
/-! `bigints.MergeUnique` / `InsertSortedUnique` and their specifications (part of C19). -/
namespace P

/-- `bigints.MergeUnique` -/
def mergeUnique : List Int → List Int → List Int
  | [], ys => ys
  | xs, [] => xs
  | x :: xs, y :: ys =>
    if x < y then x :: mergeUnique xs (y :: ys)
    else if x = y then x :: mergeUnique xs ys
    else y :: mergeUnique (x :: xs) ys
termination_by xs ys => xs.length + ys.length

def insertSortedUnique (xs : List Int) (x : Int) : List Int := mergeUnique [x] xs

theorem mem_mergeUnique (xs ys : List Int) (a : Int) :
    a ∈ mergeUnique xs ys ↔ a ∈ xs ∨ a ∈ ys := by
  induction xs, ys using mergeUnique.induct_unfolding with
  | case1 ys => simp
  | case2 xs h => simp
  | case3 x xs y ys hlt ih => rw [List.mem_cons, ih, List.mem_cons (l := xs), or_assoc]
  | case4 xs x ys hlt ih =>
    rw [List.mem_cons, ih, List.mem_cons (l := xs), List.mem_cons (l := ys), or_or_distrib_left]
  | case5 x xs y ys hlt hne ih => rw [List.mem_cons, ih, List.mem_cons (l := ys), or_left_comm]

theorem pairwise_mergeUnique (xs ys : List Int) (hx : xs.Pairwise (· < ·)) (hy : ys.Pairwise (· < ·)) :
    (mergeUnique xs ys).Pairwise (· < ·) := by
  induction xs, ys using mergeUnique.induct_unfolding with
  | case1 ys => exact hy
  | case2 xs h => exact hx
  | case3 x xs y ys hlt ih =>
    have hx' := List.pairwise_cons.mp hx
    refine List.pairwise_cons.mpr ⟨fun a ha => ?_, ih hx'.2 hy⟩
    exact ((mem_mergeUnique _ _ a).1 ha).elim (hx'.1 a) (lt_of_lt_head hy hlt a)
  | case4 xs x ys hlt ih =>
    have hx' := List.pairwise_cons.mp hx
    have hy' := List.pairwise_cons.mp hy
    refine List.pairwise_cons.mpr ⟨fun a ha => ?_, ih hx'.2 hy'.2⟩
    exact ((mem_mergeUnique _ _ a).1 ha).elim (hx'.1 a) (hy'.1 a)
  | case5 x xs y ys hlt hne ih =>
    have hy' := List.pairwise_cons.mp hy
    have hyx : y < x := Int.lt_iff_le_and_ne.2 ⟨Int.not_lt.mp hlt, Ne.symm hne⟩
    refine List.pairwise_cons.mpr ⟨fun a ha => ?_, ih hx hy'.2⟩
    exact ((mem_mergeUnique _ _ a).1 ha).elim (lt_of_lt_head hx hyx a) (hy'.1 a)

theorem mem_insertSortedUnique (xs : List Int) (x a : Int) : a ∈ insertSortedUnique xs x ↔ a = x ∨ a ∈ xs := by
  unfold insertSortedUnique
  rw [mem_mergeUnique, List.mem_singleton]

theorem pairwise_insertSortedUnique (xs : List Int) (x : Int) (h : xs.Pairwise (· < ·)) :
    (insertSortedUnique xs x).Pairwise (· < ·) :=
  pairwise_mergeUnique _ _ (List.pairwise_singleton _ _) h

end P
