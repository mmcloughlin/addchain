/-! # The shunting yard of `calc.go` on `Int`, and the conventional value of an expression

Prototype with Lean's total `/`; the model with division by zero as an outcome is `AC/CalcModel.lean`.
`popFor`, `finish`, `run` are the two-stack machine (`yard.operator`, `yard.result`, the token loop),
stacks top first.  `conv` is the conventional semantics, splitting the tokens at the loosest operators:
at the non-`^` operators into towers, the towers at `+ -` into terms.  `A` is the abstract state of the
refinement that `AC/CalcYard.lean` carries out for any value domain: `A.vs`, `A.os` are the stacks it
stands for, `convFrom` the conventional value of the remaining input from it. -/
namespace P.YP

inductive Bop | pow | mul | div | add | sub deriving Repr, DecidableEq

def prec : Bop → Nat | .pow => 3 | .mul => 3 | .div => 3 | .add => 2 | .sub => 2
def rightAssoc : Bop → Bool | .pow => true | _ => false
/-- `yard.operator` stops popping at `t` for incoming `o` -/
def stop (t o : Bop) : Bool := prec t < prec o || (prec t == prec o && rightAssoc o)

def ipow (x y : Int) : Int := if y ≤ 0 then 1 else x ^ y.toNat
def apply : Bop → Int → Int → Int
  | .pow, x, y => ipow x y | .mul, x, y => x * y | .div, x, y => x / y
  | .add, x, y => x + y | .sub, x, y => x - y

def popFor (o : Bop) : List Int → List Bop → Option (List Int × List Bop)
  | vs, [] => some (vs, [])
  | vs, t :: ts =>
    if stop t o then some (vs, t :: ts)
    else match vs with
      | b :: a :: rest => popFor o (apply t a b :: rest) ts
      | _ => none

def finish : List Int → List Bop → Option Int
  | [v], [] => some v
  | _, [] => none
  | b :: a :: rest, t :: ts => finish (apply t a b :: rest) ts
  | _, _ :: _ => none

def run : List Int → List Bop → List (Bop × Int) → Option Int
  | vs, os, [] => finish vs os
  | vs, os, (o, n) :: r =>
    match popFor o vs os with
    | none => none
    | some (vs', os') => run (n :: vs') (o :: os') r

def yard (n0 : Int) (toks : List (Bop × Int)) : Option Int := run [n0] [] toks

def isMul : Bop → Bool | .mul | .div => true | _ => false
def isAdd : Bop → Bool | .add | .sub => true | _ => false

/-- exponents of the current factor, then the remaining (non-`^` operator, factor) pairs -/
def group : List (Bop × Int) → List Int × List (Bop × List Int)
  | [] => ([], [])
  | (o, n) :: r =>
    let (ps, gs) := group r
    if o = .pow then (n :: ps, gs) else ([], (o, n :: ps) :: gs)

/-- right-associative tower `n ^ (e1 ^ (e2 ^ …))` -/
def towerVal : List Int → Int
  | [] => 1
  | [n] => n
  | n :: es => ipow n (towerVal es)

def grp2 : List (Bop × Int) → List (Bop × Int) × List (Bop × (Int × List (Bop × Int)))
  | [] => ([], [])
  | (o, v) :: r =>
    let (ms, gs) := grp2 r
    if isMul o then ((o, v) :: ms, gs) else ([], (o, (v, ms)) :: gs)

def termVal (v : Int) (ms : List (Bop × Int)) : Int := ms.foldl (fun acc p => apply p.1 acc p.2) v

def conv (n0 : Int) (toks : List (Bop × Int)) : Int :=
  let (ps, gs) := group toks
  let (ms, gs2) := grp2 (gs.map fun p => (p.1, towerVal p.2))
  gs2.foldl (fun acc p => apply p.1 acc (termVal p.2.1 p.2.2)) (termVal (towerVal (n0 :: ps)) ms)

structure A where
  a : Option (Int × Bop)
  m : Option (Int × Bop)
  tw : List Int      -- pending bases of `^`, innermost first
  cur : Int

def A.WF (st : A) : Prop :=
  (∀ p, st.a = some p → isAdd p.2 = true) ∧ (∀ p, st.m = some p → isMul p.2 = true)

def ovals (x : Option (Int × Bop)) : List Int := match x with | none => [] | some p => [p.1]
def oops (x : Option (Int × Bop)) : List Bop := match x with | none => [] | some p => [p.2]
def oapply (x : Option (Int × Bop)) (v : Int) : Int := match x with | none => v | some p => apply p.2 p.1 v

def A.vs (st : A) : List Int := st.cur :: (st.tw ++ (ovals st.m ++ ovals st.a))
def A.os (st : A) : List Bop := List.replicate st.tw.length Bop.pow ++ (oops st.m ++ oops st.a)

def collapse (tw : List Int) (cur : Int) : Int := tw.foldl (fun acc p => ipow p acc) cur

def convFrom (st : A) (rest : List (Bop × Int)) : Int :=
  let g := group rest
  let f := collapse st.tw (towerVal (st.cur :: g.1))
  let g2 := grp2 (g.2.map fun p => (p.1, towerVal p.2))
  g2.2.foldl (fun acc p => apply p.1 acc (termVal p.2.1 p.2.2)) (oapply st.a (termVal (oapply st.m f) g2.1))

theorem conv_eq (n0 : Int) (toks) : conv n0 toks = convFrom ⟨none, none, [], n0⟩ toks := by
  simp [conv, convFrom, collapse, oapply]

theorem stop_pow (t : Bop) : stop t .pow = true := by cases t <;> rfl

theorem stop_mul {o : Bop} (ho : isMul o = true) (t : Bop) : stop t o = isAdd t := by
  cases o with
  | mul | div => cases t <;> rfl
  | _ => cases ho

theorem stop_add {o : Bop} (ho : isAdd o = true) (t : Bop) : stop t o = false := by
  cases o with
  | add | sub => cases t <;> rfl
  | _ => cases ho

theorem isAdd_eq_false_of_isMul {t : Bop} (h : isMul t = true) : isAdd t = false := by
  cases t with
  | mul | div => rfl
  | _ => cases h

theorem isAdd_of_not_isMul {o : Bop} (hp : o ≠ .pow) (h : isMul o = false) : isAdd o = true := by
  cases o with
  | add | sub => rfl
  | pow => exact absurd rfl hp
  | _ => cases h

theorem popFor_stop {o t : Bop} (h : stop t o = true) (vs : List Int) (ts : List Bop) :
    popFor o vs (t :: ts) = some (vs, t :: ts) := by
  unfold popFor; simp [h]

theorem popFor_pop {o t : Bop} (h : stop t o = false) (b a : Int) (rest : List Int) (ts : List Bop) :
    popFor o (b :: a :: rest) (t :: ts) = popFor o (apply t a b :: rest) ts := by
  rw [popFor]; simp [h]

theorem popFor_nil (o : Bop) (vs : List Int) : popFor o vs [] = some (vs, []) := by
  unfold popFor; rfl

theorem towerVal_cons (n : Int) (e : Int) (es : List Int) : towerVal (n :: e :: es) = ipow n (towerVal (e :: es)) := rfl

theorem group_cons (o : Bop) (n : Int) (r) :
    group ((o, n) :: r) = if o = .pow then (n :: (group r).1, (group r).2) else ([], (o, n :: (group r).1) :: (group r).2) := by
  simp only [group]

theorem grp2_cons (o : Bop) (v : Int) (r) :
    grp2 ((o, v) :: r) = if isMul o then ((o, v) :: (grp2 r).1, (grp2 r).2) else ([], (o, (v, (grp2 r).1)) :: (grp2 r).2) := by
  simp only [grp2]

end P.YP
