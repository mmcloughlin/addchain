/-! # C03 model (semantic half): AST → IR → program → chain, and the direct semantics

Executable, core-only model of

* `acc.Translate` (acc/translate.go): running counter `n` (a Go `int`, 64-bit two's complement),
  name table, operand swap `x.Index > y.Index`, shift output index `n - 1 + int(S)`;
* `pass.Compile` (acc/pass/eval.go) over `addchain.Program` (program.go): `boundscheck`
  ("negative index" before "out of bounds", first operand before second), `Shift(i, 0)` returning
  `i` unchecked, the cross-check `out != i.Output.Index`;
* `Program.Evaluate`;

and of the direct big-step semantics `denote` (statements in order, operands left to right).
The main result, `load_eq_denote` in `SemXSim.lean`, says the pipeline refines `denote`.

Indices are `Int` because the Go payload is an `int` that may be negative (`[18446744073709551615]`
wraps to `-1`). Shift amounts are `Nat` below `2^64` (a Go `uint`). -/
namespace P.SemX

inductive Expr
  | operand (i : Int)
  | ident (s : String)
  | add (x y : Expr)
  | shift (x : Expr) (s : Nat)
  | double (x : Expr)
deriving Repr, BEq

structure Stmt where
  name : String
  e : Expr
deriving Repr, BEq

abbrev Tree := List Stmt

/-- 2^63 -/
abbrev B63 : Int := 9223372036854775808
/-- 2^64 -/
abbrev B64 : Int := 18446744073709551616

/-- Go `int` (64-bit) wrap-around; also the conversion `int(u)` of a `uint` value `u < 2^64` -/
def wrap64 (x : Int) : Int := (x + B63) % B64 - B63

theorem wrap64_id {x : Int} (h1 : -B63 ≤ x) (h2 : x < B63) : wrap64 x = x := by
  unfold wrap64 B63 B64 at *; omega

/-! ## IR -/
inductive Op
  | add (x y : Int)
  | dbl (x : Int)
  | shl (x : Int) (s : Nat)
deriving Repr, BEq

structure Inst where
  out : Int
  op : Op
deriving Repr, BEq

inductive Err | undefined | redefine | negindex | bounds | outputindex
deriving Repr, BEq, DecidableEq

abbrev Env := List (String × Int)
def lookup (env : Env) (s : String) : Option Int := (env.find? (·.1 == s)).map (·.2)

/-! ## translate (acc/translate.go): emitted instructions, new counter, result index -/
def tExpr (env : Env) : Int → Expr → Except Err (List Inst × Int × Int)
  | n, .operand i => .ok ([], n, i)
  | n, .ident s =>
    match lookup env s with
    | none => .error .undefined
    | some i => .ok ([], n, i)
  | n, .add x y =>
    match tExpr env n x with
    | .error e => .error e
    | .ok (d1, n1, a) =>
      match tExpr env n1 y with
      | .error e => .error e
      | .ok (d2, n2, b) =>
        .ok (d1 ++ d2 ++ [⟨n2, if a > b then .add b a else .add a b⟩], wrap64 (n2 + 1), n2)
  | n, .double x =>
    match tExpr env n x with
    | .error e => .error e
    | .ok (d1, n1, a) => .ok (d1 ++ [⟨n1, .dbl a⟩], wrap64 (n1 + 1), n1)
  | n, .shift x s =>
    match tExpr env n x with
    | .error e => .error e
    | .ok (d1, n1, a) =>
      let n2 := wrap64 (n1 + wrap64 s)
      .ok (d1 ++ [⟨wrap64 (n2 - 1), .shl a s⟩], n2, wrap64 (n2 - 1))

/-- translate a statement list from counter `n` and name table `env`: all emitted instructions.
    `define` happens after the expression was translated; the return statement has name `""`. -/
def tStmts (env : Env) (n : Int) : List Stmt → Except Err (List Inst)
  | [] => .ok []
  | st :: r =>
    match tExpr env n st.e with
    | .error e => .error e
    | .ok (Δ, n', x) =>
      match lookup env st.name with
      | some _ => .error .redefine
      | none =>
        match tStmts ((st.name, x) :: env) n' r with
        | .error e => .error e
        | .ok ir => .ok (Δ ++ ir)

def translate (t : Tree) : Except Err (List Inst) := tStmts [] 1 t

/-! ## compile (pass.Compile over addchain.Program) -/
abbrev Prog := List (Nat × Nat)

/-- `Program.Add`: boundscheck(i), boundscheck(j), append, return the new length -/
def pAdd (p : Prog) (i j : Int) : Except Err (Prog × Int) :=
  if i < 0 then .error .negindex
  else if i > p.length then .error .bounds
  else if j < 0 then .error .negindex
  else if j > p.length then .error .bounds
  else .ok (p ++ [(i.toNat, j.toNat)], p.length + 1)

/-- `Program.Shift`: `s` doublings; `Shift(i, 0)` returns `i` unchecked -/
def pShift : Nat → Prog → Int → Except Err (Prog × Int)
  | 0, p, i => .ok (p, i)
  | s+1, p, i =>
    match pAdd p i i with
    | .error e => .error e
    | .ok (p', i') => pShift s p' i'

def cInst (p : Prog) (inst : Inst) : Except Err Prog :=
  let r := match inst.op with
    | .add x y => pAdd p x y
    | .dbl x => pAdd p x x
    | .shl x s => pShift s p x
  match r with
  | .error e => .error e
  | .ok (p', out) => if out = inst.out then .ok p' else .error .outputindex

def cAll : Prog → List Inst → Except Err Prog
  | p, [] => .ok p
  | p, i :: r =>
    match cInst p i with
    | .error e => .error e
    | .ok p' => cAll p' r

def compile (ir : List Inst) : Except Err Prog := cAll [] ir

/-! ## evaluate (Program.Evaluate) -/
def evalStep (c : List Nat) (o : Nat × Nat) : List Nat := c ++ [c.getD o.1 0 + c.getD o.2 0]
def evaluate (p : Prog) : List Nat := p.foldl evalStep [1]

/-- result of a load: the chain and the op list -/
structure St where
  chain : List Nat
  ops : Prog
deriving Repr, BEq, DecidableEq

def mk (p : Prog) : St := ⟨evaluate p, p⟩

/-- `acc.LoadString` after parsing: Translate, then pass.Eval (= Compile + Evaluate) -/
def load (t : Tree) : Except Err St :=
  match translate t with
  | .error e => .error e
  | .ok ir =>
    match compile ir with
    | .error e => .error e
    | .ok p => .ok (mk p)

/-! ## the direct semantics

State = the chain computed so far (initially `[1]`) and the op list. -/
def St.init : St := ⟨[1], []⟩

/-- value of element `a` -/
def St.val (st : St) (a : Int) : Nat := st.chain.getD a.toNat 0

/-- one addition of elements `a` and `b`: both must have been computed already; appends one element
    (their sum), records the operands smaller index first, returns the new element's index -/
def step (st : St) (a b : Int) : Option (St × Int) :=
  if 0 ≤ a ∧ a < st.chain.length ∧ 0 ≤ b ∧ b < st.chain.length then
    some (⟨st.chain ++ [st.val a + st.val b], st.ops ++ [((min a b).toNat, (max a b).toNat)]⟩,
          st.chain.length)
  else none

/-- `s` successive doublings starting from element `a` -/
def doubles : Nat → St → Int → Option (St × Int)
  | 0, st, a => some (st, a)
  | s+1, st, a =>
    match step st a a with
    | none => none
    | some (st', a') => doubles s st' a'

def dExpr (st : St) (env : Env) : Expr → Option (St × Int)
  | .operand i => some (st, i)
  | .ident s => (lookup env s).map (fun i => (st, i))
  | .add x y =>
    match dExpr st env x with
    | none => none
    | some (st1, a) =>
      match dExpr st1 env y with
      | none => none
      | some (st2, b) => step st2 a b
  | .double x =>
    match dExpr st env x with
    | none => none
    | some (st1, a) => step st1 a a
  | .shift x s =>
    match dExpr st env x with
    | none => none
    | some (st1, a) =>
      -- the quirk: a shift by 0 is accepted iff its operand is the most recent element
      if s = 0 then (if a = (st1.chain.length : Int) - 1 then some (st1, a) else none)
      else doubles s st1 a

def dStmts (st : St) (env : Env) : List Stmt → Option St
  | [] => some st
  | s :: r =>
    match dExpr st env s.e with
    | none => none
    | some (st', x) =>
      match lookup env s.name with
      | some _ => none                      -- redefinition
      | none => dStmts st' ((s.name, x) :: env) r

def denote (t : Tree) : Option St := dStmts St.init [] t

/-! ## size of a tree: number of chain elements it appends -/
def weight : Expr → Nat
  | .operand _ => 0
  | .ident _ => 0
  | .add x y => weight x + weight y + 1
  | .double x => weight x + 1
  | .shift x s => weight x + s

def weightS : List Stmt → Nat
  | [] => 0
  | s :: r => weight s.e + weightS r

theorem evaluate_append (p : Prog) (o : Nat × Nat) :
    evaluate (p ++ [o]) = evaluate p ++ [(evaluate p).getD o.1 0 + (evaluate p).getD o.2 0] := by
  unfold evaluate
  rw [List.foldl_append]
  rfl

theorem evaluate_length (p : Prog) : (evaluate p).length = p.length + 1 := by
  have key : ∀ (q : Prog) (c : List Nat), (q.foldl evalStep c).length = c.length + q.length := by
    intro q
    induction q with
    | nil => intro c; rfl
    | cons o r ih =>
      intro c
      rw [List.foldl_cons, ih, evalStep, List.length_append, List.length_singleton, List.length_cons,
        Nat.add_assoc, Nat.add_comm 1]
  rw [evaluate, key, List.length_singleton, Nat.add_comm]

theorem mk_length (p : Prog) : ((mk p).chain.length : Int) = p.length + 1 := by
  simp only [mk, evaluate_length, Int.natCast_add, Int.cast_ofNat_Int]

theorem cAll_append : ∀ (a b : List Inst) (p : Prog),
    cAll p (a ++ b) = match cAll p a with | .error e => .error e | .ok p' => cAll p' b := by
  intro a
  induction a with
  | nil => intro b p; rfl
  | cons i r ih =>
    intro b p
    simp only [List.cons_append, cAll]
    cases cInst p i with
    | error e => rfl
    | ok p' => exact ih b p'

theorem cAll_single (p : Prog) (i : Inst) : cAll p [i] = cInst p i := by
  simp only [cAll]; cases cInst p i <;> rfl

/-! `Program.Add` succeeds exactly when both operands are elements computed so far. -/

theorem pAdd_ok {p : Prog} {i j : Int} (hi : 0 ≤ i ∧ i ≤ p.length) (hj : 0 ≤ j ∧ j ≤ p.length) :
    pAdd p i j = .ok (p ++ [(i.toNat, j.toNat)], p.length + 1) := by
  unfold pAdd
  rw [if_neg (Int.not_lt.2 hi.1), if_neg (Int.not_lt.2 hi.2), if_neg (Int.not_lt.2 hj.1),
    if_neg (Int.not_lt.2 hj.2)]

theorem pAdd_error {p : Prog} {i j : Int}
    (h : ¬ ((0 ≤ i ∧ i ≤ p.length) ∧ (0 ≤ j ∧ j ≤ p.length))) :
    ∃ e, pAdd p i j = .error e ∧ e ≠ .outputindex := by
  unfold pAdd
  by_cases h1 : i < 0
  · exact ⟨.negindex, if_pos h1, nofun⟩
  by_cases h2 : i > p.length
  · exact ⟨.bounds, by rw [if_neg h1, if_pos h2], nofun⟩
  by_cases h3 : j < 0
  · exact ⟨.negindex, by rw [if_neg h1, if_neg h2, if_pos h3], nofun⟩
  have h4 : j > p.length := Int.not_le.1 fun h4 =>
    h ⟨⟨Int.not_lt.1 h1, Int.not_lt.1 h2⟩, Int.not_lt.1 h3, h4⟩
  exact ⟨.bounds, by rw [if_neg h1, if_neg h2, if_neg h3, if_pos h4], nofun⟩

theorem pAdd_out {p : Prog} {i j : Int} {p' : Prog} {o : Int} (h : pAdd p i j = .ok (p', o)) :
    o = p.length + 1 ∧ p'.length = p.length + 1 := by
  by_cases hr : (0 ≤ i ∧ i ≤ p.length) ∧ (0 ≤ j ∧ j ≤ p.length)
  · rw [pAdd_ok hr.1 hr.2] at h
    cases h
    exact ⟨rfl, List.length_append⟩
  · obtain ⟨e, he, _⟩ := pAdd_error hr
    rw [he] at h
    cases h

theorem pAdd_err {p : Prog} {i j : Int} {e : Err} (h : pAdd p i j = .error e) :
    e ≠ .outputindex := by
  by_cases hr : (0 ≤ i ∧ i ≤ p.length) ∧ (0 ≤ j ∧ j ≤ p.length)
  · rw [pAdd_ok hr.1 hr.2] at h
    cases h
  · obtain ⟨e', he, hne⟩ := pAdd_error hr
    rw [he] at h
    cases h
    exact hne

theorem pShift_out {s : Nat} {p : Prog} {i : Int} {p' : Prog} {o : Int}
    (h : pShift s p i = .ok (p', o)) : p'.length = p.length + s ∧ (s ≠ 0 → o = p'.length) := by
  fun_induction pShift s p i with
  | case1 => cases h; exact ⟨rfl, fun h => absurd rfl h⟩
  | case2 => cases h
  | case3 s p i p1 i1 h1 ih =>
    obtain ⟨ho, hl⟩ := pAdd_out h1
    obtain ⟨hl', ho'⟩ := ih h
    refine ⟨by rw [hl', hl, Nat.add_assoc, Nat.add_comm 1], fun _ => ?_⟩
    cases s with
    | zero => cases h; rw [ho, hl]; rfl
    | succ s => exact ho' (Nat.succ_ne_zero s)

theorem pShift_err {s : Nat} {p : Prog} {i : Int} {e : Err} (h : pShift s p i = .error e) :
    e ≠ .outputindex := by
  fun_induction pShift s p i with
  | case1 => cases h
  | case2 s p i e1 h1 => cases h; exact pAdd_err h1
  | case3 s p i p1 i1 h1 ih => exact ih h

/-! The direct addition step on `mk p` is `Program.Add` on the operands in index order. -/

theorem step_comm (st : St) (a b : Int) : step st a b = step st b a := by
  unfold step
  by_cases hc : 0 ≤ a ∧ a < st.chain.length ∧ 0 ≤ b ∧ b < st.chain.length
  · rw [if_pos hc, if_pos ⟨hc.2.2.1, hc.2.2.2, hc.1, hc.2.1⟩, Int.min_comm, Int.max_comm,
      Nat.add_comm]
  · rw [if_neg hc, if_neg fun h => hc ⟨h.2.2.1, h.2.2.2, h.1, h.2.1⟩]

theorem step_le (p : Prog) {a b : Int} (hab : a ≤ b) :
    step (mk p) a b =
      match pAdd p a b with
      | .error _ => none
      | .ok (p', o) => some (mk p', o) := by
  have hl := mk_length p
  by_cases hr : (0 ≤ a ∧ a ≤ p.length) ∧ (0 ≤ b ∧ b ≤ p.length)
  · rw [pAdd_ok hr.1 hr.2, step, hl,
      if_pos ⟨hr.1.1, Int.lt_add_one_iff.2 hr.1.2, hr.2.1, Int.lt_add_one_iff.2 hr.2.2⟩,
      Int.min_eq_left hab, Int.max_eq_right hab]
    simp only [mk, evaluate_append, St.val]
  · obtain ⟨e, he, _⟩ := pAdd_error hr
    rw [he, step, hl, if_neg fun h =>
      hr ⟨⟨h.1, Int.lt_add_one_iff.1 h.2.1⟩, h.2.2.1, Int.lt_add_one_iff.1 h.2.2.2⟩]

theorem step_sim (p : Prog) (a b : Int) :
    step (mk p) a b =
      match (if a > b then pAdd p b a else pAdd p a b) with
      | .error _ => none
      | .ok (p', o) => some (mk p', o) := by
  by_cases hab : a > b
  · rw [if_pos hab, step_comm, step_le p (Int.le_of_lt hab)]
  · rw [if_neg hab, step_le p (Int.not_lt.1 hab)]

theorem step_sim_dbl (p : Prog) (a : Int) :
    step (mk p) a a =
      match pAdd p a a with
      | .error _ => none
      | .ok (p', o) => some (mk p', o) :=
  step_le p (Int.le_refl a)

theorem doubles_sim : ∀ (s : Nat) (p : Prog) (a : Int),
    doubles s (mk p) a =
      match pShift s p a with
      | .error _ => none
      | .ok (p', o) => some (mk p', o) := by
  intro s
  induction s with
  | zero => intro p a; rfl
  | succ s ih =>
    intro p a
    simp only [doubles, pShift, step_sim_dbl]
    cases pAdd p a a with
    | error e => rfl
    | ok r => exact ih r.1 r.2

end P.SemX
