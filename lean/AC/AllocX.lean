import AC.AllocSim
/-! # Executable top level of the temporary allocator (`acc/pass/alloc.go`) and of the register
machine (`acc/eval/interp.go`), for C05 / C17 / C06.

`allocateX` reproduces `Allocator.Execute`:
* empty program → error;
* the reverse scan `P.Alloc.run` (`Variable(out)` allocating on demand, `Free`, `Allocate` inputs;
  LIFO free list; map entries never deleted);
* `lastinputread`, `outv`;
* the naming loop over `Indexes` (sorted, duplicate-free operand indexes): index 0 → input name;
  `v == outv && index ≥ lastinputread` → output name; first time a variable is seen → a new
  temporary `Format % len(Temporaries)` (so temporaries are numbered in ascending *index* order);
* every operand of every instruction is replaced by the name of its index (one canonical operand
  object per index: well-formed programs, for which the defining output is the first occurrence).

Names are kept abstract (`α`): `String` in the driver, `List Char` for the listing of C06. -/
namespace AC.AllocX
open P.Alloc

/-- `Allocator{Input, Output, Format}`; `temp k` stands for `fmt.Sprintf(Format, k)` -/
structure Cfg (α : Type) where
  input : α
  output : α
  temp : Nat → α

inductive NOp (α : Type) where
  | add (x y : α) | dbl (x : α) | shl (x : α) (s : Nat)
deriving DecidableEq, Repr

/-- an instruction whose operands carry names -/
structure NInst (α : Type) where
  out : α
  op : NOp α
deriving DecidableEq, Repr

def NOp.inputs {α} : NOp α → List α
  | .add x y => [x, y] | .dbl x => [x] | .shl x _ => [x]

/-- all operand names of a named program (inputs, then output, per instruction) -/
def usedNames {α} (p : List (NInst α)) : List α := p.flatMap fun i => i.op.inputs ++ [i.out]

/-! ### `pass.Indexes`: the sorted list of unique operand indexes -/
def insertSorted (x : Nat) : List Nat → List Nat
  | [] => [x]
  | y :: r => if x < y then x :: y :: r else if x = y then y :: r else y :: insertSorted x r

def sortUniq (l : List Nat) : List Nat := l.foldr insertSorted []

/-- operand indexes in `Instruction.Operands()` order: inputs, then the output -/
def operandIdx (ir : List Inst) : List Nat := ir.flatMap fun i => i.op.inputs ++ [i.out]

def indexes (ir : List Inst) : List Nat := sortUniq (operandIdx ir)

/-- `regOf` with the allocation, the output index and `lastinputread` passed in (computed once) -/
def regOfWith (s : St) (lo lir : Nat) (i : Nat) : Reg :=
  if i = 0 then .x
  else if s.var i = s.var lo ∧ lir ≤ i then .z
  else .t ((s.var i).getD 0)

theorem regOfWith_eq (ir : List Inst) (i : Nat) :
    regOfWith (run ir) (lastOut ir) (lastInputRead ir) i = regOf ir i := rfl

/-- the Go map `name : variable ↦ temporary`, as the list of variables in order of creation: the
    temporary number of a variable is its position (`len(p.Temporaries)` at creation) -/
abbrev TMap := List Nat

/-- position of the first occurrence (the length when absent) -/
def pos : List Nat → Nat → Nat
  | [], _ => 0
  | a :: r, v => if a = v then 0 else pos r v + 1

/-- one iteration of the naming loop: only the `!ok` case changes the map -/
def visit (rg : Nat → Reg) (A : TMap) (i : Nat) : TMap :=
  match rg i with
  | .t v => if A.contains v then A else A ++ [v]
  | _ => A

def buildA (rg : Nat → Reg) (idx : List Nat) : TMap := idx.foldl (visit rg) []

def nameOf {α} (cfg : Cfg α) (A : TMap) : Reg → α
  | .x => cfg.input
  | .z => cfg.output
  | .t v => cfg.temp (pos A v)

def nameOp {α} (nm : Nat → α) : Op → NOp α
  | .add x y => .add (nm x) (nm y)
  | .dbl x => .dbl (nm x)
  | .shl x s => .shl (nm x) s

def nameInst {α} (nm : Nat → α) (i : Inst) : NInst α := ⟨nm i.out, nameOp nm i.op⟩

/-- the name given to operand index `i` -/
def nameX {α} (cfg : Cfg α) (ir : List Inst) (i : Nat) : α :=
  nameOf cfg (buildA (regOf ir) (indexes ir)) (regOf ir i)

def tempsOf {α} (cfg : Cfg α) (A : TMap) : List α := (List.range A.length).map cfg.temp

/-- `Allocator.Execute`: the named program and `p.Temporaries` -/
def allocateX {α} (cfg : Cfg α) (ir : List Inst) : Except String (List (NInst α) × List α) :=
  if ir.isEmpty then .error "allocator: program has no instructions" else
  let rg := regOfWith (run ir) (lastOut ir) (lastInputRead ir)
  let A := buildA rg (indexes ir)
  .ok (ir.map (nameInst fun i => nameOf cfg A (rg i)), tempsOf cfg A)

/-- `CanonicalizeOperands` (run first by the allocator) refuses a program in which two operand
    objects of one index carry different non-empty identifiers. `occ`: the (index, identifier)
    pairs of all operands before allocation, "" = no identifier. -/
def nameConflict (occ : List (Nat × String)) : Bool :=
  occ.any fun p => p.2 != "" && occ.any fun q => q.1 == p.1 && q.2 != "" && q.2 != p.2

/-- `Allocator.Execute` on a program whose operands may already carry identifiers (they are
    cleared by `ClearNames` unless they conflict) -/
def allocateN {α} (cfg : Cfg α) (ir : List Inst) (occ : List (Nat × String)) :
    Except String (List (NInst α) × List α) :=
  if ir.isEmpty then .error "allocator: program has no instructions"
  else if nameConflict occ then .error "identifier conflict"
  else allocateX cfg ir

/-- number of variables the allocation created (`allocation.n`) -/
def nVars (ir : List Inst) : Nat := (run ir).n

/-! ### the register machine of `acc/eval/interp.go`

State: name ↦ value (`none` = not defined). Per instruction: `output()` first (creates the output
register with value 0 when it is not defined), then the operands are loaded (an undefined one is
an error), then the result is written into the output register. With aliasing the output name
and the input name denote the same storage. -/
abbrev RegsX (α : Type) := List (α × Int)

def cellX {α} [DecidableEq α] (cfg : Cfg α) (alias : Bool) (n : α) : α :=
  if alias ∧ n = cfg.output then cfg.input else n

/-- value of register `c` (the most recent binding) -/
def getX {α} [DecidableEq α] : RegsX α → α → Option Int
  | [], _ => none
  | (d, v) :: r, c => if c = d then some v else getX r c

def updX {α} (st : RegsX α) (c : α) (v : Int) : RegsX α := (c, v) :: st

def readX {α} [DecidableEq α] (st : RegsX α) (c : α) : Except String Int :=
  match getX st c with
  | some v => .ok v
  | none => .error "operand is not defined"

/-- `Interpreter.output`: make sure the output register exists -/
def touchX {α} [DecidableEq α] (st : RegsX α) (c : α) : RegsX α :=
  match getX st c with
  | some _ => st
  | none => updX st c 0

/-- load the operands (an undefined one is an error) and compute the result -/
def NOp.evalX {α} (rd : α → Except String Int) : NOp α → Except String Int
  | .add x y =>
    match rd x, rd y with
    | .ok a, .ok b => .ok (a + b)
    | .error e, _ => .error e
    | _, .error e => .error e
  | .dbl x =>
    match rd x with
    | .ok a => .ok (a + a)
    | .error e => .error e
  | .shl x s =>
    match rd x with
    | .ok a => .ok (a * 2 ^ s)
    | .error e => .error e

def execInstX {α} [DecidableEq α] (cfg : Cfg α) (alias : Bool) (st : RegsX α) (i : NInst α) :
    Except String (RegsX α) :=
  let c := cellX cfg alias i.out
  let st1 := touchX st c
  match i.op.evalX (fun n => readX st1 (cellX cfg alias n)) with
  | .ok v => .ok (updX st1 c v)
  | .error e => .error e

def execX {α} [DecidableEq α] (cfg : Cfg α) (alias : Bool) :
    List (NInst α) → RegsX α → Except String (RegsX α)
  | [], st => .ok st
  | i :: r, st =>
    match execInstX cfg alias st i with
    | .ok st' => execX cfg alias r st'
    | .error e => .error e

/-- initial state: only the input register is defined -/
def initX {α} (cfg : Cfg α) (v : Int) : RegsX α := updX [] cfg.input v

/-- chain values by index, for an arbitrary input value -/
def envV (v : Int) (pre : List Inst) : Nat → Int := pre.foldl stepVal (upd (fun _ => 0) 0 v)

/-- the value of the last chain element (input value 1) -/
def chainEnd (ir : List Inst) : Int := envV 1 ir (lastOut ir)

end AC.AllocX
