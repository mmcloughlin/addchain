import AC.CF
/-! C08 (continued-fraction half): whatever `minchain`, its candidate loop and `chain` return is an
    ascending addition chain through the targets that ends at the largest one. -/
namespace P

structure GoodC (c : List Int) : Prop where
  asc : c.Pairwise (· < ·)
  head : c.head? = some 1
  pos : ∀ x ∈ c, 1 ≤ x
  closed : ∀ x ∈ c, x = 1 ∨ ∃ a ∈ c, ∃ b ∈ c, a + b = x

/-- `c` is a good chain containing `ns` and ending at the last (largest) element of `ns` -/
structure GoodFor (ns c : List Int) : Prop where
  good : GoodC c
  sup : ∀ n ∈ ns, n ∈ c
  last : c.getLastD 0 = ns.getLastD 0

namespace GoodC
theorem isChain {c} (h : GoodC c) : IsChain c :=
  chain_of_closed c h.asc (fun x hx => by have := h.pos x hx; omega) h.head h.closed

theorem one_mem {c} (h : GoodC c) : (1 : Int) ∈ c := List.mem_of_mem_head? h.head

theorem ne_nil {c} (h : GoodC c) : c ≠ [] := List.ne_nil_of_mem h.one_mem

theorem append {a e : List Int} (ha : GoodC a) (he : e.Pairwise (· < ·))
    (hgt : ∀ x ∈ e, a.getLastD 0 < x) (hcl : ∀ x ∈ e, ∃ p ∈ a ++ e, ∃ q ∈ a ++ e, p + q = x) :
    GoodC (a ++ e) := by
  have hle := le_getLastD a (ha.asc.imp Int.le_of_lt)
  refine ⟨List.pairwise_append.mpr ⟨ha.asc, he, fun y hy z hz => Int.lt_of_le_of_lt (hle y hy) (hgt z hz)⟩,
    by rw [List.head?_append, ha.head]; rfl, ?_, ?_⟩
  · intro y hy
    rcases List.mem_append.mp hy with h | h
    · exact ha.pos y h
    · exact Int.le_of_lt (Int.lt_of_le_of_lt (ha.pos _ (getLastD_mem a ha.ne_nil)) (hgt y h))
  · intro y hy
    rcases List.mem_append.mp hy with h | h
    · rcases ha.closed y h with h1 | ⟨p, hp, q, hq, hpq⟩
      · exact Or.inl h1
      · exact Or.inr ⟨p, List.mem_append_left _ hp, q, List.mem_append_left _ hq, hpq⟩
    · exact Or.inr (hcl y h)
end GoodC

namespace GoodFor
/-- a chain ending at the last target contains the last target -/
theorem of_dropLast {ns c : List Int} (g : GoodC c) (hne : ns ≠ [])
    (hsup : ∀ x ∈ ns.dropLast, x ∈ c) (hl : c.getLastD 0 = ns.getLastD 0) : GoodFor ns c := by
  refine ⟨g, fun x hx => ?_, hl⟩
  rcases (mem_iff_dropLast_or_last ns hne x).1 hx with h | rfl
  · exact hsup x h
  · exact hl ▸ getLastD_mem c g.ne_nil
end GoodFor

/-- `plus` models `addchain.Plus` (chain.go) -/
theorem plus_good (a : List Int) (x : Int) (ha : GoodC a) (hx : x ∈ a) :
    GoodC (plus a x) ∧ (plus a x).getLastD 0 = a.getLastD 0 + x ∧ ∀ y ∈ a, y ∈ plus a x := by
  have hlm : a.getLastD 0 ∈ a := getLastD_mem a ha.ne_nil
  have hxp := ha.pos x hx
  unfold plus
  rw [getLastD_default a ha.ne_nil 1 0]
  refine ⟨ha.append (List.pairwise_singleton _ _) ?_ ?_, getLastD_append_singleton _ _ _,
    fun y hy => List.mem_append_left _ hy⟩
  · intro y hy
    rw [List.mem_singleton.1 hy]
    omega
  · intro y hy
    rw [List.mem_singleton.1 hy]
    exact ⟨_, List.mem_append_left _ hlm, x, List.mem_append_left _ hx, rfl⟩

/-- `product` models `addchain.Product` (chain.go) -/
theorem product_good (a b : List Int) (ha : GoodC a) (hb : GoodC b) :
    GoodC (product a b) ∧ (product a b).getLastD 0 = a.getLastD 0 * b.getLastD 0 ∧
    ∀ y ∈ a, y ∈ product a b := by
  have hlm : a.getLastD 0 ∈ a := getLastD_mem a ha.ne_nil
  have hA1 : 1 ≤ a.getLastD 0 := ha.pos _ hlm
  cases b with
  | nil => exact absurd rfl hb.ne_nil
  | cons h b' =>
    obtain rfl : h = 1 := Option.some.inj hb.head
    have hb2 : ∀ x ∈ b', 1 < x := fun x hx => List.rel_of_pairwise_cons hb.asc hx
    unfold product
    rw [getLastD_default a ha.ne_nil 1 0]
    generalize hA : a.getLastD 0 = A at *
    simp only [List.drop_succ_cons, List.drop_zero]
    -- multiples of members of `b` are members of the product; `A * 1` is the last member of `a`
    have lift : ∀ z ∈ 1 :: b', A * z ∈ a ++ b'.map (A * ·) := by
      intro z hz
      rcases List.mem_cons.mp hz with rfl | hz
      · rw [Int.mul_one]; exact List.mem_append_left _ hlm
      · exact List.mem_append_right _ (List.mem_map_of_mem hz)
    refine ⟨ha.append ?_ ?_ ?_, ?_, fun y hy => List.mem_append_left _ hy⟩
    · rw [List.pairwise_map]
      exact (List.pairwise_cons.mp hb.asc).2.imp fun h => Int.mul_lt_mul_of_pos_left h hA1
    · intro y hy
      obtain ⟨x, hx, rfl⟩ := List.mem_map.mp hy
      have := Int.mul_lt_mul_of_pos_left (hb2 x hx) (hA1 : 0 < A)
      rw [Int.mul_one] at this
      exact Int.lt_of_le_of_lt (Int.le_of_eq hA) this
    · intro y hy
      obtain ⟨x, hx, rfl⟩ := List.mem_map.mp hy
      rcases hb.closed x (List.mem_cons_of_mem _ hx) with h1 | ⟨p, hp, q, hq, hpq⟩
      · exact absurd h1.symm (Int.ne_of_lt (hb2 x hx))
      · exact ⟨A * p, lift p hp, A * q, lift q hq, by rw [← Int.mul_add, hpq]⟩
    · cases b' with
      | nil => rw [List.map_nil, List.append_nil]; exact hA.trans (Int.mul_one A).symm
      | cons x t =>
        rw [List.map_cons, getLastD_append_ne_nil _ _ _ (List.cons_ne_nil _ _), ← List.map_cons, getLastD_map_mul]
        rfl

/-- the doubling chain `1, 2, 4, …, 2^b`: each step is a `plus` with the last member -/
theorem pow2_good (b : Nat) : GoodC ((List.range (b + 1)).map (fun e => (2 : Int) ^ e)) ∧
    ((List.range (b + 1)).map (fun e => (2 : Int) ^ e)).getLastD 0 = 2 ^ b := by
  induction b with
  | zero =>
    exact ⟨⟨List.pairwise_singleton _ _, rfl, fun x hx => by rw [List.mem_singleton.1 hx]; decide,
      fun x hx => Or.inl (List.mem_singleton.1 hx)⟩, rfl⟩
  | succ b ih =>
    obtain ⟨g, hl⟩ := ih
    have h := (plus_good _ (2 ^ b) g (hl ▸ getLastD_mem _ g.ne_nil)).1
    unfold plus at h
    rw [getLastD_default _ g.ne_nil 1 0, hl, ← Int.two_mul, Int.mul_comm, ← Int.pow_succ] at h
    rw [List.range_succ, List.map_append]
    exact ⟨h, getLastD_append_singleton _ _ _⟩

theorem pow2UpTo_good (n : Int) (h : isPow2 n = true) : GoodFor [n] (pow2UpTo n) := by
  unfold isPow2 at h
  simp only [Bool.and_eq_true, decide_eq_true_eq, beq_iff_eq] at h
  obtain ⟨hpos, hn⟩ := h
  have hb : 1 ≤ bitLenN n.toNat := bitLenN_pos (by omega)
  obtain ⟨g, hl⟩ := pow2_good (bitLenN n.toNat - 1)
  rw [Nat.sub_add_cancel hb] at g hl
  rw [← hn] at hl
  exact GoodFor.of_dropLast g (List.cons_ne_nil _ _) (fun _ hx => nomatch hx) hl

theorem three_good : GoodFor [3] [1, 2, 3] := by
  obtain ⟨g, _⟩ := pow2_good 1
  exact GoodFor.of_dropLast (plus_good [1, 2] 1 g (by decide)).1 (List.cons_ne_nil _ _) (fun _ hx => nomatch hx) rfl

/-! ### inserting the remainder into the (possibly repeating) sorted targets -/
theorem pairwise_le_insertSortedUnique (r : Int) : ∀ xs : List Int, xs.Pairwise (· ≤ ·) →
    (insertSortedUnique xs r).Pairwise (· ≤ ·) := by
  intro xs
  induction xs with
  | nil => intro _; simp [insertSortedUnique, mergeUnique]
  | cons y ys ih =>
    intro hs
    have hy : ∀ a ∈ ys, y ≤ a := fun a ha => List.rel_of_pairwise_cons hs ha
    unfold insertSortedUnique at ih ⊢
    rw [mergeUnique]
    split
    · rename_i hlt
      rw [mergeUnique]
      refine List.pairwise_cons.mpr ⟨fun a ha => ?_, hs⟩
      rcases List.mem_cons.mp ha with rfl | ha
      · exact Int.le_of_lt hlt
      · exact Int.le_trans (Int.le_of_lt hlt) (hy a ha)
    · rename_i hlt
      split
      · rename_i h; subst h
        have : mergeUnique [] ys = ys := by cases ys <;> simp [mergeUnique]
        rw [this]; exact hs
      · refine List.pairwise_cons.mpr ⟨fun a ha => ?_, ih (List.pairwise_cons.mp hs).2⟩
        rcases (mem_mergeUnique _ _ _).1 ha with h | h
        · exact List.mem_singleton.1 h ▸ Int.not_lt.1 hlt
        · exact hy a h

theorem insert_le_spec : ∀ (xs : List Int) (r : Int), xs ≠ [] → xs.Pairwise (· ≤ ·) → r < xs.getLastD 0 →
    (insertSortedUnique xs r).Pairwise (· ≤ ·) ∧ (insertSortedUnique xs r).getLastD 0 = xs.getLastD 0 ∧
    insertSortedUnique xs r ≠ [] := by
  intro xs r hne hs hr
  have hp := pairwise_le_insertSortedUnique r xs hs
  have hmem := mem_insertSortedUnique xs r
  refine ⟨hp, getLastD_eq_of_max _ _ hp ((hmem _).2 (Or.inr (getLastD_mem xs hne))) ?_,
    List.ne_nil_of_mem ((hmem r).2 (Or.inl rfl))⟩
  intro x hx
  rcases (hmem x).1 hx with rfl | h
  · exact Int.le_of_lt hr
  · exact le_getLastD xs hs x h

theorem better_cases (best : Option (List Int)) (c : List Int) : better best c = best ∨ better best c = some c := by
  unfold better
  cases best with
  | none => exact Or.inr rfl
  | some m => dsimp only; split <;> simp

theorem better_ne_none (best : Option (List Int)) (c : List Int) : better best c ≠ none := by
  unfold better
  cases best with
  | none => exact Option.some_ne_none c
  | some m => dsimp only; split <;> exact Option.some_ne_none _

/-! ### one step of each of the three functions

The recursion equations in the form in which the proofs about the recursion use them: what it
means for a call with fuel `f + 1` to return `some c`, in terms of calls with fuel `f`. -/

theorem ite_eq_iff {α} {p : Prop} [Decidable p] {a b c : α} :
    (if p then a else b) = c ↔ p ∧ a = c ∨ ¬ p ∧ b = c := by
  split <;> simp [*]

theorem minchain_succ_iff (s : Strategy) (f : Nat) (n : Int) (c : List Int) :
    minchain s (f + 1) n = some c ↔
      (isPow2 n = true ∧ pow2UpTo n = c) ∨ (¬ isPow2 n = true ∧ n = 3 ∧ [1, 2, 3] = c) ∨
      (¬ isPow2 n = true ∧ n ≠ 3 ∧ minLoop s f n (s.K n) none = some c) := by
  rw [minchain, ite_eq_iff, ite_eq_iff, Option.some.injEq, Option.some.injEq, and_or_left]

theorem minLoop_nil (s : Strategy) (f : Nat) (n : Int) (best : Option (List Int)) :
    minLoop s (f + 1) n [] best = best := by
  rw [minLoop]

theorem minLoop_cons_iff (s : Strategy) (f : Nat) (n k : Int) (ks : List Int) (best : Option (List Int))
    (c : List Int) :
    minLoop s (f + 1) n (k :: ks) best = some c ↔
      (2 ≤ k ∧ k < n) ∧ ∃ c1, chain s f [k, n] = some c1 ∧ minLoop s f n ks (better best c1) = some c := by
  rw [minLoop, Option.ite_none_right_eq_some]
  cases chain s f [k, n] <;> simp

/-- `chain` does not divide: there is one target only, or the second largest is `1` -/
def Degenerate (ns : List Int) : Prop := ns.dropLast = [] ∨ ns.dropLast.getLastD 0 ≤ 1

theorem chain_succ_deg (s : Strategy) (f : Nat) (ns : List Int) (h : Degenerate ns) :
    chain s (f + 1) ns = minchain s f (ns.getLastD 0) := by
  rw [chain]
  exact if_pos h

/-- the targets `chain` recurses on: the remainder of the largest target modulo the second largest
    one, if not zero, replaces the largest -/
def chainRest (ns : List Int) : List Int :=
  if ns.getLastD 0 % ns.dropLast.getLastD 0 = 0 then ns.dropLast
  else insertSortedUnique ns.dropLast (ns.getLastD 0 % ns.dropLast.getLastD 0)

/-- how a chain `c` for `chainRest ns` and a chain `cq` for the quotient combine to one for `ns` -/
def chainJoin (ns c cq : List Int) : List Int :=
  if ns.getLastD 0 % ns.dropLast.getLastD 0 = 0 then product c cq
  else plus (product c cq) (ns.getLastD 0 % ns.dropLast.getLastD 0)

theorem chain_succ_iff (s : Strategy) (f : Nat) (ns c : List Int)
    (h : ¬ Degenerate ns) :
    chain s (f + 1) ns = some c ↔
      ∃ cq c', minchain s f (ns.getLastD 0 / ns.dropLast.getLastD 0) = some cq ∧
        chain s f (chainRest ns) = some c' ∧ chainJoin ns c' cq = c := by
  unfold Degenerate at h
  rw [chain, if_neg h]
  dsimp only
  cases minchain s f (ns.getLastD 0 / ns.dropLast.getLastD 0) with
  | none => simp
  | some cq =>
    simp only [Option.some.injEq, exists_and_left, exists_eq_left']
    -- both sides branch on the same test, whether the remainder is zero
    unfold chainRest chainJoin
    split <;> exact Option.map_eq_some_iff

theorem ediv_step {n m : Int} (hm : 2 ≤ m) (hmn : m ≤ n) :
    1 ≤ n / m ∧ n / m < n ∧ 0 ≤ n % m ∧ n % m < m ∧ m * (n / m) + n % m = n := by
  have hm0 : 0 < m := Int.lt_of_lt_of_le (by decide) hm
  have hq : 1 ≤ n / m := Int.le_ediv_of_mul_le hm0 (by rw [Int.one_mul]; exact hmn)
  have h1 : n / m * m ≤ n := Int.ediv_mul_le n (Int.ne_of_gt hm0)
  have h2 : n / m * 2 ≤ n / m * m := Int.mul_le_mul_of_nonneg_left hm (Int.le_trans (by decide) hq)
  exact ⟨hq, by omega, Int.emod_nonneg n (Int.ne_of_gt hm0), Int.emod_lt_of_pos n hm0, Int.mul_ediv_add_emod n m⟩

/-- the lists `chain` is called on -/
structure Targets (ns : List Int) : Prop where
  ne : ns ≠ []
  sorted : ns.Pairwise (· ≤ ·)
  pos : ∀ x ∈ ns, 1 ≤ x

namespace Targets
/-- the candidate `k` with the number `n` it is tried for -/
theorem pair {k n : Int} (hk : 2 ≤ k) (hkn : k < n) : Targets [k, n] ∧ ¬ Degenerate [k, n] := by
  have hk1 : 1 ≤ k := Int.le_trans (by decide) hk
  refine ⟨⟨List.cons_ne_nil _ _, List.pairwise_pair.2 (Int.le_of_lt hkn), fun x hx => ?_⟩, ?_⟩
  · rcases (mem_pair x k n).1 hx with rfl | rfl
    · exact hk1
    · exact Int.le_trans hk1 (Int.le_of_lt hkn)
  · rintro (h | h)
    · cases h
    · exact absurd (Int.le_trans hk h) (by decide)

theorem step {ns : List Int} (ht : Targets ns) (h : ¬ Degenerate ns) :
    2 ≤ ns.dropLast.getLastD 0 ∧ ns.dropLast.getLastD 0 ≤ ns.getLastD 0 ∧
    Targets (chainRest ns) ∧ (chainRest ns).getLastD 0 = ns.dropLast.getLastD 0 ∧
    ∀ x ∈ ns.dropLast, x ∈ chainRest ns := by
  have hrne : ns.dropLast ≠ [] := fun e => h (Or.inl e)
  have hm2 : 2 ≤ ns.dropLast.getLastD 0 := Int.not_le.1 fun e => h (Or.inr e)
  obtain ⟨hrs, hrle⟩ := pairwise_dropLast ns ht.sorted ht.ne
  have hmn := hrle _ (getLastD_mem _ hrne)
  have hrpos : ∀ x ∈ ns.dropLast, 1 ≤ x := fun x hx => ht.pos x (List.dropLast_subset _ hx)
  refine ⟨hm2, hmn, ?_⟩
  unfold chainRest
  split
  · exact ⟨⟨hrne, hrs, hrpos⟩, rfl, fun x hx => hx⟩
  · rename_i hr
    obtain ⟨_, _, hr0, hrm, _⟩ := ediv_step hm2 hmn
    obtain ⟨is1, is2, is3⟩ := insert_le_spec ns.dropLast _ hrne hrs hrm
    refine ⟨⟨is3, is1, fun x hx => ?_⟩, is2, fun x hx => (mem_insertSortedUnique _ _ _).2 (Or.inr hx)⟩
    rcases (mem_insertSortedUnique _ _ _).1 hx with rfl | hx
    · exact Int.lt_iff_le_and_ne.2 ⟨hr0, fun e => hr e.symm⟩
    · exact hrpos x hx
end Targets

theorem goodFor_of_deg {ns c : List Int} (ht : Targets ns) (h : Degenerate ns)
    (hg : GoodFor [ns.getLastD 0] c) : GoodFor ns c := by
  refine GoodFor.of_dropLast hg.good ht.ne (fun x hx => ?_) hg.last
  have hx1 : x ≤ 1 := by
    rcases h with h | h
    · rw [h] at hx; cases hx
    · exact Int.le_trans (le_getLastD _ (pairwise_dropLast ns ht.sorted ht.ne).1 x hx) h
  obtain rfl : x = 1 := Int.le_antisymm hx1 (ht.pos x (List.dropLast_subset _ hx))
  exact hg.good.one_mem

/-- a proper step: `n = m * q + r`, so `c ⊗ cq` (`⊕ r`) ends at `n` if `c` ends at `m`, `cq` at `q`;
    `r` is a member of `c` because it was made a target -/
theorem goodFor_step {ns c cq : List Int} (ht : Targets ns) (h : ¬ Degenerate ns)
    (hq : GoodFor [ns.getLastD 0 / ns.dropLast.getLastD 0] cq) (hc : GoodFor (chainRest ns) c) :
    GoodFor ns (chainJoin ns c cq) := by
  obtain ⟨hm2, hmn, _, hlast, hsub⟩ := ht.step h
  obtain ⟨_, _, _, _, hdm⟩ := ediv_step hm2 hmn
  obtain ⟨pg, pl, pm⟩ := product_good c cq hc.good hq.good
  rw [hc.last, hlast, hq.last] at pl
  have hpl : (product c cq).getLastD 0 = ns.dropLast.getLastD 0 * (ns.getLastD 0 / ns.dropLast.getLastD 0) := pl
  unfold chainJoin
  split
  · rename_i hr
    rw [hr, Int.add_zero] at hdm
    exact GoodFor.of_dropLast pg ht.ne (fun x hx => pm x (hc.sup x (hsub x hx))) (hpl.trans hdm)
  · rename_i hr
    have hrin : ns.getLastD 0 % ns.dropLast.getLastD 0 ∈ chainRest ns := by
      unfold chainRest
      rw [if_neg hr]
      exact (mem_insertSortedUnique _ _ _).2 (Or.inl rfl)
    obtain ⟨qg, ql, qm⟩ := plus_good (product c cq) _ pg (pm _ (hc.sup _ hrin))
    exact GoodFor.of_dropLast qg ht.ne (fun x hx => qm x (pm x (hc.sup x (hsub x hx)))) (by rw [ql, hpl]; exact hdm)

theorem cf_ok (s : Strategy) : ∀ fuel : Nat,
    (∀ n c, 1 ≤ n → minchain s fuel n = some c → GoodFor [n] c) ∧
    (∀ n ks best c, 1 ≤ n → (∀ b, best = some b → GoodFor [n] b) →
        minLoop s fuel n ks best = some c → GoodFor [n] c) ∧
    (∀ ns c, Targets ns → chain s fuel ns = some c → GoodFor ns c) := by
  intro fuel
  induction fuel with
  | zero =>
    exact ⟨fun n c _ h => by simp [minchain] at h, fun n ks best c _ _ h => by simp [minLoop] at h,
      fun ns c _ h => by simp [chain] at h⟩
  | succ f ih =>
    obtain ⟨ihMin, ihLoop, ihChain⟩ := ih
    refine ⟨?_, ?_, ?_⟩
    · intro n c hn h
      rcases (minchain_succ_iff s f n c).1 h with ⟨hp, rfl⟩ | ⟨_, rfl, rfl⟩ | ⟨_, _, h⟩
      · exact pow2UpTo_good n hp
      · exact three_good
      · exact ihLoop n _ none c hn (fun b hb => nomatch hb) h
    · intro n ks best c hn hbest h
      cases ks with
      | nil => exact hbest c ((minLoop_nil s f n best).symm.trans h)
      | cons k ks =>
        obtain ⟨hk, c1, hc, h⟩ := (minLoop_cons_iff s f n k ks best c).1 h
        refine ihLoop n ks (better best c1) c hn (fun b hb => ?_) h
        rcases better_cases best c1 with e | e
        · exact hbest b (e ▸ hb)
        · obtain rfl : c1 = b := Option.some.inj (e ▸ hb)
          have hg := ihChain [k, n] c1 (Targets.pair hk.1 hk.2).1 hc
          exact ⟨hg.good, fun x hx => hg.sup x (List.mem_cons_of_mem _ hx), hg.last⟩
    · intro ns c ht h
      by_cases hd : Degenerate ns
      · rw [chain_succ_deg s f ns hd] at h
        exact goodFor_of_deg ht hd (ihMin _ c (ht.pos _ (getLastD_mem ns ht.ne)) h)
      · obtain ⟨cq, c', hq, hc, rfl⟩ := (chain_succ_iff s f ns c hd).1 h
        obtain ⟨hm2, hmn, hr, _⟩ := ht.step hd
        exact goodFor_step ht hd (ihMin _ cq (ediv_step hm2 hmn).1 hq) (ihChain _ c' hr hc)

/-- `FindSequence` sorts the targets first -/
theorem targets_mergeSort (T : List Int) (hne : T ≠ []) (hpos : ∀ x ∈ T, 1 ≤ x) :
    Targets (T.mergeSort (fun a b => a ≤ b)) ∧ ∀ x, x ∈ T.mergeSort (fun a b => a ≤ b) ↔ x ∈ T := by
  have hperm := List.mergeSort_perm T (fun a b => decide (a ≤ b))
  exact ⟨⟨fun e => hne (List.Perm.eq_nil (e ▸ hperm.symm)), pairwise_mergeSort_le T,
    fun x hx => hpos x (hperm.mem_iff.1 hx)⟩, fun x => hperm.mem_iff⟩

/-- **C08 for continued fractions (partial correctness, every strategy)**: `FindSequence` sorts
    the targets and calls `chain`. -/
theorem contfrac_ok (s : Strategy) (fuel : Nat) (targets c : List Int) (hne : targets ≠ [])
    (hpos : ∀ x ∈ targets, 1 ≤ x)
    (h : chain s fuel (targets.mergeSort (fun a b => a ≤ b)) = some c) :
    IsChain c ∧ ∀ x ∈ targets, x ∈ c := by
  obtain ⟨ht, hmem⟩ := targets_mergeSort targets hne hpos
  have hg := (cf_ok s fuel).2.2 _ c ht h
  exact ⟨hg.good.isChain, fun x hx => hg.sup x ((hmem x).2 hx)⟩

end P
