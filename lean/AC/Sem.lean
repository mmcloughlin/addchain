/-! C03 prototype: the IR pipeline (translate → compile) refines the direct semantics. -/
namespace P.Sem

inductive Expr
  | operand (i : Nat)
  | ident (s : String)
  | add (x y : Expr)
  | shift (x : Expr) (s : Nat)
  | double (x : Expr)
deriving Repr

structure Stmt where
  name : String
  e : Expr

inductive Op | add (x y : Nat) | dbl (x : Nat) | shl (x s : Nat) deriving Repr
structure Inst where
  out : Nat
  op : Op
deriving Repr

abbrev Env := List (String × Nat)
def lookup (env : Env) (s : String) : Option Nat := (env.find? (·.1 == s)).map (·.2)

/-! ## translate (acc/translate.go): emitted instructions, new counter, result index -/
def tExpr (env : Env) : Nat → Expr → Option (List Inst × Nat × Nat)
  | n, .operand i => some ([], n, i)
  | n, .ident s => (lookup env s).map (fun i => ([], n, i))
  | n, .add x y =>
    match tExpr env n x with
    | none => none
    | some (d1, n1, a) =>
      match tExpr env n1 y with
      | none => none
      | some (d2, n2, b) => some (d1 ++ d2 ++ [⟨n2, .add (min a b) (max a b)⟩], n2 + 1, n2)
  | n, .double x =>
    match tExpr env n x with
    | none => none
    | some (d1, n1, a) => some (d1 ++ [⟨n1, .dbl a⟩], n1 + 1, n1)
  | n, .shift x s =>
    match tExpr env n x with
    | none => none
    | some (d1, n1, a) => some (d1 ++ [⟨n1 + s - 1, .shl a s⟩], n1 + s, n1 + s - 1)

/-! ## compile (pass.Compile over addchain.Program) -/
abbrev Prog := List (Nat × Nat)

def pAdd (p : Prog) (i j : Nat) : Option (Prog × Nat) :=
  if i ≤ p.length ∧ j ≤ p.length then some (p ++ [(i, j)], p.length + 1) else none

def pShift : Nat → Prog → Nat → Option (Prog × Nat)
  | 0, p, i => some (p, i)
  | s+1, p, i => match pAdd p i i with
    | none => none
    | some (p', i') => pShift s p' i'

def cInst (p : Prog) (inst : Inst) : Option Prog :=
  let r := match inst.op with
    | .add x y => pAdd p x y
    | .dbl x => pAdd p x x
    | .shl x s => pShift s p x
  match r with
  | none => none
  | some (p', out) => if out = inst.out then some p' else none

def cAll : Prog → List Inst → Option Prog
  | p, [] => some p
  | p, i :: r => match cInst p i with
    | none => none
    | some p' => cAll p' r

/-! ## the direct semantics -/
def dExpr (p : Prog) (env : Env) : Expr → Option (Prog × Nat)
  | .operand i => some (p, i)
  | .ident s => (lookup env s).map (fun i => (p, i))
  | .add x y =>
    match dExpr p env x with
    | none => none
    | some (p1, a) =>
      match dExpr p1 env y with
      | none => none
      | some (p2, b) => pAdd p2 (min a b) (max a b)
  | .double x =>
    match dExpr p env x with
    | none => none
    | some (p1, a) => pAdd p1 a a
  | .shift x s =>
    match dExpr p env x with
    | none => none
    | some (p1, a) =>
      if s = 0 then (if a = p1.length then some (p1, a) else none)
      else pShift s p1 a

theorem cAll_append : ∀ (a b : List Inst) (p : Prog),
    cAll p (a ++ b) = match cAll p a with | none => none | some p' => cAll p' b := by
  intro a
  induction a with
  | nil => intro b p; rfl
  | cons i r ih =>
    intro b p
    simp only [List.cons_append, cAll]
    cases cInst p i with
    | none => rfl
    | some p' => exact ih b p'

theorem cAll_single (p : Prog) (i : Inst) : cAll p [i] = cInst p i := by
  simp only [cAll]; cases cInst p i <;> rfl

theorem pAdd_out {p : Prog} {i j : Nat} {p' : Prog} {o : Nat} (h : pAdd p i j = some (p', o)) :
    o = p.length + 1 ∧ p'.length = p.length + 1 := by
  unfold pAdd at h
  split at h
  · cases h; simp
  · cases h

theorem pShift_out {s : Nat} {p : Prog} {i : Nat} {p' : Prog} {o : Nat} (hs : 1 ≤ s)
    (h : pShift s p i = some (p', o)) : o = p.length + s ∧ p'.length = p.length + s := by
  fun_induction pShift s p i with
  | case1 => exact absurd hs (by decide)
  | case2 => cases h
  | case3 s p i p1 i1 h1 ih =>
    obtain ⟨ho, hl⟩ := pAdd_out h1
    cases s with
    | zero => cases h; exact ⟨ho, hl⟩
    | succ s =>
      obtain ⟨ho', hl'⟩ := ih (Nat.succ_pos s) h
      rw [hl, Nat.add_assoc, Nat.add_comm 1] at ho' hl'
      exact ⟨ho', hl'⟩

/-- What compiling the translator's output `r = (Δ, n', x)` from program `p` has to do with the
    outcome `d` of the direct semantics from `p`: both fail, or both yield the same program, `d`
    with result `x`, and the counter `n'` is again one more than the length of the program. -/
structure Sim (p : Prog) (r : List Inst × Nat × Nat) (d : Option (Prog × Nat)) : Prop where
  fail : cAll p r.1 = none → d = none
  ok : ∀ p', cAll p r.1 = some p' → d = some (p', r.2.2) ∧ r.2.1 = p'.length + 1

namespace Sim

theorem of_none {p : Prog} {r : List Inst × Nat × Nat} (hc : cAll p r.1 = none) : Sim p r none :=
  ⟨fun _ => rfl, fun p' h => by rw [hc] at h; cases h⟩

theorem of_some {p p' : Prog} {r : List Inst × Nat × Nat} (hc : cAll p r.1 = some p')
    (hn : r.2.1 = p'.length + 1) : Sim p r (some (p', r.2.2)) :=
  ⟨fun h => (by rw [hc] at h; cases h), fun q h => by rw [hc] at h; cases h; exact ⟨rfl, hn⟩⟩

theorem nil {p : Prog} {n x : Nat} (hn : n = p.length + 1) : Sim p ([], n, x) (some (p, x)) :=
  ⟨fun h => (nomatch h), fun _ h => by cases h; exact ⟨rfl, hn⟩⟩

theorem append {p Δ1 Δ2 n1 n2 a x} {d1 : Option (Prog × Nat)}
    {k : Prog → Nat → Option (Prog × Nat)} (h1 : Sim p (Δ1, n1, a) d1)
    (h2 : ∀ p1, n1 = p1.length + 1 → Sim p1 (Δ2, n2, x) (k p1 a)) :
    Sim p (Δ1 ++ Δ2, n2, x)
      (match (generalizing := false) d1 with | none => none | some (p1, a) => k p1 a) := by
  cases hc : cAll p Δ1 with
  | none =>
    cases h1.fail hc
    exact of_none (by rw [cAll_append, hc])
  | some p1 =>
    obtain ⟨rfl, hn1⟩ := h1.ok p1 hc
    have h := h2 p1 hn1
    refine ⟨fun h' => ?_, fun p' h' => ?_⟩ <;> rw [cAll_append, hc] at h'
    · exact h.fail h'
    · exact h.ok p' h'

theorem inst {p : Prog} {i : Inst} {n' : Nat} (r : Option (Prog × Nat))
    (hi : cInst p i = match r with
      | none => none
      | some (p', o) => if o = i.out then some p' else none)
    (hok : ∀ p' o, r = some (p', o) → o = i.out ∧ n' = p'.length + 1) :
    Sim p ([i], n', i.out) r := by
  cases r with
  | none => exact of_none (by rw [cAll_single, hi])
  | some r =>
    obtain ⟨p', o⟩ := r
    obtain ⟨rfl, hn⟩ := hok p' o rfl
    exact of_some (r := ([i], n', i.out)) (by rw [cAll_single, hi]; exact if_pos rfl) hn

/-- An `add` or a `dbl` instruction `i'`: both run `Program.Add`. -/
theorem addInst {p : Prog} {n i j : Nat} (hn : n = p.length + 1) (i' : Inst) (ho : i'.out = n)
    (hi : cInst p i' = match pAdd p i j with
      | none => none
      | some (p', o) => if o = i'.out then some p' else none) :
    Sim p ([i'], n + 1, i'.out) (pAdd p i j) :=
  inst (pAdd p i j) hi fun p' o h => by
    obtain ⟨h1, h2⟩ := pAdd_out h
    exact ⟨by rw [h1, ho, hn], by rw [h2, hn]⟩

/-- `Program.Shift(a, 0)` returns `a` unchecked, so the cross-check compares `a` itself with the
    index of the most recent element; a shift by `s ≥ 1` passes it. -/
theorem shl {p : Prog} {n a s : Nat} (hn : n = p.length + 1) :
    Sim p ([⟨n + s - 1, .shl a s⟩], n + s, n + s - 1)
      (if s = 0 then (if a = p.length then some (p, a) else none) else pShift s p a) := by
  subst hn
  rw [Nat.add_right_comm, Nat.add_sub_cancel]
  by_cases hs : s = 0
  · subst hs
    have hi : cInst p ⟨p.length, .shl a 0⟩ = if a = p.length then some p else none := rfl
    rw [Nat.add_zero, if_pos rfl]
    by_cases ha : a = p.length
    · subst ha
      rw [if_pos rfl]
      exact of_some (r := (_, _, _)) (by rw [cAll_single, hi, if_pos rfl]) rfl
    · rw [if_neg ha]
      exact of_none (by rw [cAll_single, hi, if_neg ha])
  · rw [if_neg hs]
    exact inst (i := ⟨p.length + s, .shl a s⟩) (pShift s p a) rfl fun p' o h => by
      obtain ⟨ho, hl⟩ := pShift_out (Nat.pos_of_ne_zero hs) h
      exact ⟨ho, by rw [hl]⟩

end Sim

theorem tExpr_sim (env : Env) (n : Nat) (e : Expr) :
    match tExpr env n e with
    | none => ∀ p, dExpr p env e = none
    | some r => ∀ p : Prog, n = p.length + 1 → Sim p r (dExpr p env e) := by
  fun_induction tExpr env n e with
  | case1 n i => exact fun p hn => Sim.nil hn
  | case2 n s =>
    cases hl : lookup env s with
    | none => exact fun p => by rw [dExpr, hl]; rfl
    | some i => exact fun p hn => by rw [dExpr, hl]; exact Sim.nil hn
  | case3 n x y hx ihx =>
    rw [hx] at ihx
    exact fun p => by rw [dExpr, ihx p]
  | case4 n x y d1 n1 a hx hy ihx ihy =>
    rw [hy] at ihy
    intro p
    rw [dExpr]
    cases dExpr p env x with
    | none => rfl
    | some r => simp only [ihy]
  | case5 n x y d1 n1 a hx d2 n2 b hy ihx ihy =>
    rw [hx] at ihx
    rw [hy] at ihy
    intro p hn
    rw [dExpr, List.append_assoc]
    refine (ihx p hn).append fun p1 hn1 => (ihy p1 hn1).append fun p2 hn2 => ?_
    exact Sim.addInst hn2 ⟨n2, .add (min a b) (max a b)⟩ rfl rfl
  | case6 n x hx ihx =>
    rw [hx] at ihx
    exact fun p => by rw [dExpr, ihx p]
  | case7 n x d1 n1 a hx ihx =>
    rw [hx] at ihx
    intro p hn
    rw [dExpr]
    exact (ihx p hn).append fun p1 hn1 => Sim.addInst hn1 ⟨n1, .dbl a⟩ rfl rfl
  | case8 n x s hx ihx =>
    rw [hx] at ihx
    exact fun p => by rw [dExpr, ihx p]
  | case9 n x s d1 n1 a hx ihx =>
    rw [hx] at ihx
    intro p hn
    rw [dExpr]
    exact (ihx p hn).append fun p1 hn1 => Sim.shl hn1

theorem expr_sim (env : Env) : ∀ (e : Expr) (n : Nat) (p : Prog), n = p.length + 1 →
    (tExpr env n e = none → dExpr p env e = none) ∧
    (∀ Δ n' x, tExpr env n e = some (Δ, n', x) →
      (cAll p Δ = none → dExpr p env e = none) ∧
      (∀ p', cAll p Δ = some p' → dExpr p env e = some (p', x) ∧ n' = p'.length + 1)) := by
  intro e n p hn
  have h := tExpr_sim env n e
  refine ⟨fun ht => ?_, fun Δ n' x ht => ?_⟩ <;> rw [ht] at h
  · exact h p
  · exact ⟨(h p hn).fail, (h p hn).ok⟩

/-- translate a statement list from counter `n` and name table `env`: all emitted instructions -/
def tStmts (env : Env) (n : Nat) : List Stmt → Option (List Inst)
  | [] => some []
  | st :: r =>
    match tExpr env n st.e with
    | none => none
    | some (Δ, n', x) =>
      match lookup env st.name with
      | some _ => none                       -- "cannot redefine"
      | none => (tStmts ((st.name, x) :: env) n' r).map (Δ ++ ·)

/-- the direct semantics of a statement list -/
def dStmts (p : Prog) (env : Env) : List Stmt → Option Prog
  | [] => some p
  | st :: r =>
    match dExpr p env st.e with
    | none => none
    | some (p', x) =>
      match lookup env st.name with
      | some _ => none
      | none => dStmts p' ((st.name, x) :: env) r

theorem stmts_sim : ∀ (ss : List Stmt) (env : Env) (n : Nat) (p : Prog), n = p.length + 1 →
    (match tStmts env n ss with | none => none | some ir => cAll p ir) = dStmts p env ss := by
  intro ss env n p hn
  fun_induction tStmts env n ss generalizing p with
  | case1 => rfl
  | case2 env n st r ht =>
    have h := tExpr_sim env n st.e
    rw [ht] at h
    rw [dStmts, h p]
  | case3 env n st r Δ n' x ht v hl =>
    rw [dStmts]
    cases dExpr p env st.e with
    | none => rfl
    | some r => simp only [hl]
  | case4 env n st r Δ n' x ht hl ih =>
    have hs := tExpr_sim env n st.e
    rw [ht] at hs
    have hs := hs p hn
    rw [dStmts]
    cases hc : cAll p Δ with
    | none =>
      rw [hs.fail hc]
      cases tStmts ((st.name, x) :: env) n' r with
      | none => rfl
      | some ir => simp only [Option.map_some]; rw [cAll_append, hc]
    | some p1 =>
      obtain ⟨hd, hn1⟩ := hs.ok p1 hc
      rw [hd]
      simp only [hl]
      rw [← ih p1 hn1]
      cases tStmts ((st.name, x) :: env) n' r with
      | none => rfl
      | some ir => simp only [Option.map_some]; rw [cAll_append, hc]

/-- **Refinement, with indices as unbounded naturals**: translating a script to IR and compiling it
    (with the operand bounds checks and the output-index cross-check) yields exactly the operation list of the direct
    semantics, and fails exactly when the direct semantics fails. -/
theorem load_eq_denote (ss : List Stmt) :
    (match tStmts [] 1 ss with | none => none | some ir => cAll [] ir) = dStmts [] [] ss :=
  stmts_sim ss [] 1 [] rfl

end P.Sem
