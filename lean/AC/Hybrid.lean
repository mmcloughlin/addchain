import AC.Windows
/-! C09 prototype: the `Hybrid` decomposition = long runs first, sliding windows on the rest. -/
namespace P.Bits

/-- phase 1 of `Hybrid.Decompose`: runs (cut at `T`) longer than `K` become terms; shorter
    ones are skipped and left for the sliding window -/
def hyRuns (x K T : Nat) : Nat → Nat → List Term
  | 0, _ => []
  | _, 0 => []
  | fuel+1, ip+1 =>
    if x.testBit ip then
      let n := runDown x T (ip + 1) 0
      if n ≤ K then hyRuns x K T fuel (ip + 1 - n)
      else ⟨2 ^ n - 1, ip + 1 - n⟩ :: hyRuns x K T fuel (ip + 1 - n)
    else hyRuns x K T fuel ip

theorem value_filter_add (p : Term → Bool) (l : List Term) :
    value (l.filter p) + value (l.filter fun t => !p t) = value l := by
  induction l with
  | nil => rfl
  | cons t r ih =>
    rw [List.filter_cons, List.filter_cons, value_cons, ← ih]
    cases p t <;> simp only [Bool.not_true, Bool.not_false, if_true, Bool.false_eq_true, if_false, value_cons]
    · exact Nat.add_left_comm _ _ _
    · exact Nat.add_assoc _ _ _

theorem pow_le_ones_iff (n K : Nat) : 2 ^ K ≤ 2 ^ n - 1 ↔ K < n :=
  (Nat.le_sub_one_iff_lt (Nat.two_pow_pos n)).trans (Nat.pow_lt_pow_iff_right Nat.one_lt_two)

theorem ones_odd {n : Nat} (hn : 1 ≤ n) : (2 ^ n - 1) % 2 = 1 := by
  rw [Nat.mod_two_eq_one_iff_testBit_zero, Nat.testBit_two_pow_sub_one]; exact decide_eq_true hn

/-- phase 1 keeps, of the run-length decomposition, the runs longer than `K` -/
theorem hyRuns_eq_filter (x K T : Nat) : ∀ (fuel ip : Nat),
    hyRuns x K T fuel ip = (runLen x T fuel ip).filter fun t => 2 ^ K ≤ t.d := by
  intro fuel
  induction fuel with
  | zero => intro ip; rfl
  | succ f ih =>
    intro ip
    cases ip with
    | zero => rfl
    | succ ip =>
      unfold hyRuns runLen
      split
      · dsimp only
        rw [List.filter_cons, ← ih]
        simp only [decide_eq_true_eq, pow_le_ones_iff, ← Nat.not_le, ite_not]
      · exact ih ip

theorem hyRuns_spec (x K T : Nat) : ∀ (fuel ip : Nat), ip ≤ fuel →
    value (hyRuns x K T fuel ip) ≤ x % 2 ^ ip ∧
    (∀ t ∈ hyRuns x K T fuel ip, ∃ n, K < n ∧ t.d = 2 ^ n - 1 ∧ (0 < T → n ≤ T) ∧ t.d * 2 ^ t.e < 2 ^ ip) ∧
    (hyRuns x K T fuel ip).Pairwise (fun a b => b.d * 2 ^ b.e < 2 ^ a.e) := by
  intro fuel ip h
  have s := runLen_scan x T fuel ip h
  rw [hyRuns_eq_filter]
  refine ⟨s.sum ▸ Nat.le.intro (value_filter_add _ _), fun t ht => ?_, s.desc.filter _⟩
  obtain ⟨ht, hlong⟩ := List.mem_filter.1 ht
  obtain ⟨⟨n, _, h2, h3⟩, h4⟩ := s.shape t ht
  exact ⟨n, (pow_le_ones_iff n K).1 (h2 ▸ of_decide_eq_true hlong), h2, h3, h4⟩

/-- `Hybrid.Decompose`, before the final sort -/
def hybrid (x K T : Nat) : List Term :=
  let L := Nat.log2 x + 1
  let runs := hyRuns x K T L L
  let y := x - value runs
  runs ++ sliding y K L L

/-- **C09 for the hybrid method (sum and shapes)** -/
theorem hybrid_spec (x K T : Nat) (hK : 1 ≤ K) :
    value (hybrid x K T) = x ∧
    ∀ t ∈ hybrid x K T, t.d % 2 = 1 ∧ (t.d < 2 ^ K ∨ ∃ n, K < n ∧ t.d = 2 ^ n - 1 ∧ (0 < T → n ≤ T)) := by
  unfold hybrid
  dsimp only
  have hxL : x < 2 ^ (Nat.log2 x + 1) := Nat.lt_log2_self
  generalize Nat.log2 x + 1 = L at hxL ⊢
  obtain ⟨r1, r2, _⟩ := hyRuns_spec x K T L L (Nat.le_refl _)
  obtain ⟨s1, s2, _⟩ := sliding_spec (x - value (hyRuns x K T L L)) K hK L L (Nat.le_refl _)
  rw [Nat.mod_eq_of_lt hxL] at r1
  refine ⟨?_, fun t ht => ?_⟩
  · rw [value_append, s1, Nat.mod_eq_of_lt (Nat.lt_of_le_of_lt (Nat.sub_le _ _) hxL)]
    exact Nat.add_sub_cancel' r1
  · rcases List.mem_append.1 ht with h | h
    · obtain ⟨n, h1, h2, h3, _⟩ := r2 t h
      exact ⟨h2 ▸ ones_odd (Nat.zero_lt_of_lt h1), .inr ⟨n, h1, h2, h3⟩⟩
    · exact ⟨(s2 t h).1, .inl (s2 t h).2.1⟩

end P.Bits
