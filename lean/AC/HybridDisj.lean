import AC.Hybrid
/-! C09 prototype: in the hybrid decomposition a sliding-window term never overlaps a long run. -/
namespace P.Bits

/-- what is left of the low `ip` bits of `x` after the long runs found below `ip` are cleared -/
def yLow (x K T : Nat) (fuel ip : Nat) : Nat := x % 2 ^ ip - value (hyRuns x K T fuel ip)

/-- the cleared positions: union of the ranges of the long runs below `ip` -/
def inRun (x K T : Nat) (fuel ip : Nat) (i : Nat) : Prop :=
  ∃ t ∈ hyRuns x K T fuel ip, ∃ n, t.d = 2 ^ n - 1 ∧ t.e ≤ i ∧ i < t.e + n

theorem run_top_le {n e h : Nat} (hn : 1 ≤ n) (hlt : (2 ^ n - 1) * 2 ^ e < 2 ^ h) : e + n ≤ h := by
  have h1 : 2 ^ (n - 1) ≤ 2 ^ n - 1 :=
    Nat.le_sub_one_of_lt (Nat.pow_lt_pow_right Nat.one_lt_two (Nat.sub_one_lt_of_lt hn))
  have h2 : 2 ^ (n - 1 + e) < 2 ^ h :=
    Nat.pow_add .. ▸ Nat.lt_of_le_of_lt (Nat.mul_le_mul_right _ h1) hlt
  have := Nat.succ_le_of_lt ((Nat.pow_lt_pow_iff_right Nat.one_lt_two).1 h2)
  rwa [Nat.succ_eq_add_one, Nat.add_right_comm, Nat.sub_add_cancel hn, Nat.add_comm] at this

/-- what the short runs (digit below `2^K`) sum to has no bit inside a long one -/
theorem short_clear (x K T : Nat) : ∀ (fuel ip : Nat), ip ≤ fuel →
    ∀ r ∈ runLen x T fuel ip, 2 ^ K ≤ r.d → ∀ n, r.d = 2 ^ n - 1 → 1 ≤ n → ∀ i, r.e ≤ i → i < r.e + n →
      (value ((runLen x T fuel ip).filter fun t => !decide (2 ^ K ≤ t.d))).testBit i = false := by
  intro fuel
  induction fuel with
  | zero => intro ip _ r hr; cases hr
  | succ f ih =>
    intro ip h
    cases ip with
    | zero => intro r hr; cases hr
    | succ ip =>
      unfold runLen
      by_cases hb : x.testBit ip = true
      · rw [if_pos hb]
        dsimp only
        have hl := Nat.le_trans (runDown_window x T ip hb).2.2.1 (Nat.le_of_succ_le_succ h)
        generalize ip + 1 - runDown x T (ip + 1) 0 = l at hl ⊢
        have s := runLen_scan x T f l hl
        -- what the short runs below `l` sum to stays below `2^l`
        have hlt : value ((runLen x T f l).filter fun t => !decide (2 ^ K ≤ t.d)) < 2 ^ l :=
          Nat.lt_of_le_of_lt (Nat.le.intro (Nat.add_comm _ _ ▸ value_filter_add _ _))
            (s.sum ▸ Nat.mod_lt _ (Nat.two_pow_pos l))
        intro r hr hlong n hn hn1 i hi1 hi2
        rw [List.filter_cons]
        rcases List.mem_cons.1 hr with rfl | hr
        · rw [if_neg (by rw [decide_eq_true hlong]; exact Bool.false_ne_true)]
          exact Nat.testBit_lt_two_pow (Nat.lt_of_lt_of_le hlt (Nat.pow_le_pow_right Nat.two_pos hi1))
        · have hil : i < l := Nat.lt_of_lt_of_le hi2 (run_top_le hn1 (hn ▸ (s.shape r hr).2))
          have hbit := ih l hl r hr hlong n hn hn1 i hi1 hi2
          split
          · rw [value_cons, Nat.mul_comm, Nat.testBit_two_pow_mul_add _ hlt, if_pos hil]; exact hbit
          · exact hbit
      · rw [if_neg hb]; exact ih ip (Nat.le_of_succ_le_succ h)

theorem yLow_clear (x K T : Nat) : ∀ (fuel ip : Nat), ip ≤ fuel →
    yLow x K T fuel ip < 2 ^ ip ∧
    ∀ t ∈ hyRuns x K T fuel ip, ∀ n, t.d = 2 ^ n - 1 → 1 ≤ n → ∀ i, t.e ≤ i → i < t.e + n →
      (yLow x K T fuel ip).testBit i = false := by
  intro fuel ip h
  have s := runLen_scan x T fuel ip h
  -- the remainder is what the short runs sum to
  have hy : yLow x K T fuel ip = value ((runLen x T fuel ip).filter fun t => !decide (2 ^ K ≤ t.d)) := by
    rw [yLow, hyRuns_eq_filter, ← s.sum, ← value_filter_add fun t => decide (2 ^ K ≤ t.d), Nat.add_sub_cancel_left]
  refine ⟨Nat.lt_of_le_of_lt (Nat.sub_le _ _) (Nat.mod_lt _ (Nat.two_pow_pos ip)), fun t ht => ?_⟩
  rw [hyRuns_eq_filter] at ht
  rw [hy]
  exact short_clear x K T fuel ip h t (List.mem_filter.1 ht).1 (of_decide_eq_true (List.mem_filter.1 ht).2)

theorem sliding_ends (y K : Nat) (hK : 1 ≤ K) : ∀ (fuel hp : Nat), hp ≤ fuel →
    ∀ t ∈ sliding y K fuel hp, ∃ w, 1 ≤ w ∧ w ≤ K ∧ y.testBit t.e = true ∧ y.testBit (t.e + w - 1) = true ∧
      t.d < 2 ^ w := by
  intro fuel hp h t ht
  obtain ⟨⟨w, hw1, hwK, hlo, hhi, hd⟩, _⟩ := (sliding_scan y K hK fuel hp h).shape t ht
  exact ⟨w, hw1, hwK, hlo, hhi, hd ▸ Nat.mod_lt _ (Nat.two_pow_pos w)⟩

/-- a window with both end bits set, narrower than a range of clear bits, lies to one side of the range -/
theorem window_outside {y e w lo n : Nat} (hlo : y.testBit e = true) (hhi : y.testBit (e + w - 1) = true)
    (hz : ∀ i, lo ≤ i → i < lo + n → y.testBit i = false) (hwn : w < n) : lo + n ≤ e ∨ e + w ≤ lo := by
  have out : ∀ i, y.testBit i = true → lo ≤ i → lo + n ≤ i := fun i hi a =>
    Nat.le_of_not_lt fun b => Bool.false_ne_true ((hz i a b).symm.trans hi)
  by_cases ha : lo ≤ e
  · exact .inl (out e hlo ha)
  · have hab := Nat.lt_of_not_le ha
    -- the upper end is below `lo + n`, so it is below `lo` as well
    have ht : e + w - 1 < lo + n := Nat.lt_of_le_of_lt (Nat.sub_le _ _) (Nat.add_lt_add hab hwn)
    exact .inr (Nat.le_of_pred_lt (Nat.lt_of_not_le fun h => Nat.not_le_of_lt ht (out _ hhi h)))

/-- **C09, hybrid, non-overlap across the two groups**: a sliding-window term of the remainder and
    a long run occupy disjoint bit ranges. -/
theorem hybrid_disjoint (x K T : Nat) (hK : 1 ≤ K) :
    let L := Nat.log2 x + 1
    let y := yLow x K T L L
    ∀ r ∈ hyRuns x K T L L, ∀ n, r.d = 2 ^ n - 1 → K < n →
    ∀ s ∈ sliding y K L L, ∃ w, s.d < 2 ^ w ∧ (r.e + n ≤ s.e ∨ s.e + w ≤ r.e) := by
  intro L y r hr n hn hnK s hs
  obtain ⟨_, hclear⟩ := yLow_clear x K T L L (Nat.le_refl _)
  obtain ⟨w, _, hwK, hlo, hhi, hdw⟩ := sliding_ends y K hK L L (Nat.le_refl _) s hs
  exact ⟨w, hdw, window_outside hlo hhi (hclear r hr n hn (Nat.zero_lt_of_lt hnK)) (Nat.lt_of_le_of_lt hwK hnK)⟩

end P.Bits
