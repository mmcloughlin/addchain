import AC.AllocX
/-! The executable allocator model `AC.AllocX`: the ascending-index temporary numbering is an injective
relabelling of variable numbers, so the register machine over names simulates the chain semantics, with
definedness (no "operand is not defined" error), in both alias modes and for an arbitrary input value. -/
namespace AC.AllocX
open P.Alloc

theorem pos_eq_idxOf (A : List Nat) (v : Nat) : pos A v = A.idxOf v := by
  induction A with
  | nil => rfl
  | cons a r ih => simp [pos, List.idxOf_cons, ih]

theorem pos_lt_of_mem (A : List Nat) (v : Nat) (h : v ∈ A) : pos A v < A.length :=
  pos_eq_idxOf A v ▸ List.idxOf_lt_length_of_mem h

theorem pos_inj (A : List Nat) (v w : Nat) (hv : v ∈ A) (hw : w ∈ A) (h : pos A v = pos A w) : v = w := by
  rw [pos_eq_idxOf, pos_eq_idxOf] at h
  have e1 := List.getElem_idxOf (List.idxOf_lt_length_of_mem hv)
  have e2 := List.getElem_idxOf (List.idxOf_lt_length_of_mem hw)
  simp only [h] at e1
  exact e1.symm.trans e2

theorem pos_getElem (A : List Nat) (k : Nat) (hk : k < A.length) (hnd : A.Nodup) : pos A (A[k]) = k :=
  (pos_eq_idxOf A _).trans (hnd.idxOf_getElem k hk)

theorem mem_visit (rg : Nat → Reg) (A : TMap) (i v : Nat) : v ∈ visit rg A i ↔ v ∈ A ∨ rg i = .t v := by
  unfold visit
  split
  · rename_i w hw
    rw [hw]
    by_cases hc : w ∈ A
    · simp [hc]; rintro rfl; exact hc
    · simp [hc, eq_comm]
  · rename_i hn
    simp only [iff_self_or]
    intro e; exact absurd e (hn v)

theorem visit_nodup (rg : Nat → Reg) (A : TMap) (i : Nat) (h : A.Nodup) : (visit rg A i).Nodup := by
  unfold visit
  split
  · split
    · exact h
    · rename_i w _ hc
      have hw : w ∉ A := by simpa using hc
      refine List.nodup_append.mpr ⟨h, List.nodup_cons.mpr ⟨List.not_mem_nil, List.nodup_nil⟩, ?_⟩
      intro a ha b hb e
      cases List.mem_singleton.mp hb
      exact hw (e ▸ ha)
  · exact h

theorem mem_foldl_visit (rg : Nat → Reg) (v : Nat) : ∀ (idx : List Nat) (A : TMap),
    v ∈ idx.foldl (visit rg) A ↔ v ∈ A ∨ ∃ i ∈ idx, rg i = .t v := by
  intro idx
  induction idx with
  | nil => intro A; simp
  | cons j r ih => intro A; simp [ih, mem_visit, or_assoc]

theorem mem_buildA (rg : Nat → Reg) (idx : List Nat) (v : Nat) : v ∈ buildA rg idx ↔ ∃ i ∈ idx, rg i = .t v := by
  simp [buildA, mem_foldl_visit]

theorem buildA_nodup (rg : Nat → Reg) (idx : List Nat) : (buildA rg idx).Nodup := by
  unfold buildA
  generalize hA : ([] : TMap) = A
  have h : A.Nodup := hA ▸ List.nodup_nil
  clear hA
  induction idx generalizing A with
  | nil => exact h
  | cons i r ih => exact ih _ (visit_nodup rg A i h)

theorem mem_insertSorted (x a : Nat) : ∀ (l : List Nat), a ∈ insertSorted x l ↔ a = x ∨ a ∈ l := by
  intro l
  induction l with
  | nil => simp [insertSorted]
  | cons y r ih =>
    unfold insertSorted
    split
    · simp
    · split
      · rename_i h; simp [h]
      · simp [ih, or_left_comm]

theorem mem_sortUniq (a : Nat) : ∀ (l : List Nat), a ∈ sortUniq l ↔ a ∈ l := by
  intro l
  induction l with
  | nil => simp [sortUniq]
  | cons x r ih =>
    have : sortUniq (x :: r) = insertSorted x (sortUniq r) := rfl
    rw [this, mem_insertSorted, ih]; simp

theorem mem_indexes (ir : List Inst) (i : Nat) : i ∈ indexes ir ↔ i ∈ operandIdx ir :=
  mem_sortUniq i _

theorem mem_operandIdx (ir : List Inst) (i : Nat) :
    i ∈ operandIdx ir ↔ ∃ inst ∈ ir, i ∈ inst.op.inputs ∨ i = inst.out := by
  simp [operandIdx, List.mem_flatMap]

theorem run_var_some : ∀ (ir : List Inst) (i : Nat), i ∈ operandIdx ir → ∃ v, (run ir).var i = some v := by
  intro ir
  induction ir with
  | nil => intro i h; cases h
  | cons inst suf ih =>
    intro i h
    rw [run_cons]
    simp only [operandIdx, List.flatMap_cons, List.mem_append, List.mem_singleton] at h
    rcases h with (h | h) | h
    · exact foldl_allocate_self _ _ i h
    · obtain ⟨v, hv⟩ := allocate_self (run suf) inst.out
      exact ⟨v, step_var_of_allocate (run suf) inst i v (h ▸ hv)⟩
    · obtain ⟨v, hv⟩ := ih i h
      exact ⟨v, step_var_mono _ _ _ _ hv⟩

/-- pairwise distinct input / output / temporary names -/
structure NamesDistinct {α} (cfg : Cfg α) : Prop where
  io : cfg.input ≠ cfg.output
  ti : ∀ k, cfg.temp k ≠ cfg.input
  to : ∀ k, cfg.temp k ≠ cfg.output
  tt : ∀ j k, cfg.temp j = cfg.temp k → j = k

/-- the registers that carry a name: input, output, and the variables entered in the map -/
def InS (A : TMap) : Reg → Prop
  | .x => True
  | .z => True
  | .t v => v ∈ A

theorem nameOf_inj {α} {cfg : Cfg α} (hd : NamesDistinct cfg) (A : TMap) (r1 r2 : Reg)
    (h1 : InS A r1) (h2 : InS A r2) (h : nameOf cfg A r1 = nameOf cfg A r2) : r1 = r2 := by
  cases r1 <;> cases r2 <;> simp only [nameOf] at h
  · rfl
  · exact absurd h hd.io
  · exact absurd h.symm (hd.ti _)
  · exact absurd h.symm hd.io
  · rfl
  · exact absurd h.symm (hd.to _)
  · exact absurd h (hd.ti _)
  · exact absurd h (hd.to _)
  · rw [pos_inj A _ _ h1 h2 (hd.tt _ _ h)]

theorem cellOf_InS (alias : Bool) (A : TMap) (r : Reg) (h : InS A r) : InS A (cellOf alias r) := by
  cases r with
  | x => rw [cellOf_x]; trivial
  | z => rw [cellOf_z]; cases alias <;> trivial
  | t v => rw [cellOf_t]; exact h

theorem cellX_nameOf {α} [DecidableEq α] {cfg : Cfg α} (hd : NamesDistinct cfg) (alias : Bool) (A : TMap)
    (r : Reg) : cellX cfg alias (nameOf cfg A r) = nameOf cfg A (cellOf alias r) := by
  cases r with
  | x => simp [cellOf_x, cellX, nameOf, hd.io]
  | z => cases alias <;> simp [cellOf_z, cellX, nameOf]
  | t v => simp [cellOf_t, cellX, nameOf, hd.to]

theorem regOf_InS (ir : List Inst) (i : Nat) (hi : i ∈ operandIdx ir) :
    InS (buildA (regOf ir) (indexes ir)) (regOf ir i) := by
  cases h : regOf ir i with
  | x => trivial
  | z => trivial
  | t v => exact (mem_buildA _ _ v).mpr ⟨i, (mem_indexes ir i).mpr hi, h⟩

theorem cellX_live_distinct {α} [DecidableEq α] {cfg : Cfg α} (hd : NamesDistinct cfg) (alias : Bool)
    (pre : List Inst) (inst : Inst) (suf : List Inst)
    (hwf : WFs (pre ++ inst :: suf)) (hs : StrictOuts (pre ++ inst :: suf))
    (j : Nat) (hj : j ∈ liveAt suf) (hne : j ≠ inst.out) :
    cellX cfg alias (nameX cfg (pre ++ inst :: suf) j) ≠
      cellX cfg alias (nameX cfg (pre ++ inst :: suf) inst.out) := by
  obtain ⟨i', hi', hr⟩ := live_reader suf j hj
  have hjo : j ∈ operandIdx (pre ++ inst :: suf) := (mem_operandIdx _ j).mpr ⟨i', by simp [hi'], Or.inl hr⟩
  have hoo : inst.out ∈ operandIdx (pre ++ inst :: suf) := (mem_operandIdx _ _).mpr ⟨inst, by simp, Or.inr rfl⟩
  unfold nameX
  rw [cellX_nameOf hd, cellX_nameOf hd]
  exact fun e => cell_distinct alias pre inst suf hwf hs j hj hne
    (nameOf_inj hd _ _ _ (cellOf_InS alias _ _ (regOf_InS _ j hjo)) (cellOf_InS alias _ _ (regOf_InS _ _ hoo)) e)

theorem evalX_ok {α : Type} (nm : Nat → α) (rd : α → Except String Int) (env : Nat → Int) (op : Op)
    (h : ∀ x ∈ op.inputs, rd (nm x) = .ok (env x)) :
    (nameOp nm op).evalX rd = .ok (opVal env op) := by
  cases op with
  | add x y =>
    simp only [nameOp, NOp.evalX, h x (by simp [Op.inputs]), h y (by simp [Op.inputs]), opVal]
  | dbl x =>
    simp only [nameOp, NOp.evalX, h x (by simp [Op.inputs]), opVal]
    rw [Int.two_mul]
  | shl x s =>
    simp only [nameOp, NOp.evalX, h x (by simp [Op.inputs]), opVal]

section Sim
variable {α : Type} [DecidableEq α]

theorem getX_updX (st : RegsX α) (c d : α) (v : Int) :
    getX (updX st c v) d = if d = c then some v else getX st d := by
  simp [updX, getX]

theorem getX_touchX (st : RegsX α) (c d : α) (a : Int) (h : getX st d = some a) :
    getX (touchX st c) d = some a := by
  unfold touchX
  cases hc : getX st c with
  | some _ => exact h
  | none =>
    simp only [getX_updX]
    by_cases hdc : d = c
    · subst hdc; rw [hc] at h; cases h
    · simp [hdc, h]

theorem execX_append (cfg : Cfg α) (alias : Bool) : ∀ (p q : List (NInst α)) (st st1 : RegsX α),
    execX cfg alias p st = .ok st1 → execX cfg alias (p ++ q) st = execX cfg alias q st1 := by
  intro p
  induction p with
  | nil => intro q st st1 h; simp only [execX] at h; cases h; rfl
  | cons i r ih =>
    intro q st st1 h
    simp only [execX, List.cons_append] at h ⊢
    cases he : execInstX cfg alias st i with
    | error e => rw [he] at h; cases h
    | ok st' => rw [he] at h; simp only [] at h ⊢; exact ih q st' st1 h

theorem envV_snoc (v : Int) (pre : List Inst) (inst : Inst) :
    envV v (pre ++ [inst]) = stepVal (envV v pre) inst := by
  simp [envV, List.foldl_append]

/-- every value needed by the rest of the program, and the result of the instruction run last, sits, defined,
    in the cell of its name -/
def SimX (cfg : Cfg α) (alias : Bool) (v : Int) (nm : Nat → α) (pre suf : List Inst) (st : RegsX α) : Prop :=
  ∀ i, (i ∈ liveAt suf ∨ pre.getLast?.map (·.out) = some i) →
    getX st (cellX cfg alias (nm i)) = some (envV v pre i)

theorem simX_step (cfg : Cfg α) (alias : Bool) (v : Int) (nm : Nat → α)
    (pre : List Inst) (inst : Inst) (suf : List Inst) (st : RegsX α)
    (hdist : ∀ j ∈ liveAt suf, j ≠ inst.out → cellX cfg alias (nm j) ≠ cellX cfg alias (nm inst.out))
    (h : SimX cfg alias v nm pre (inst :: suf) st) :
    ∃ st', execInstX cfg alias st (nameInst nm inst) = .ok st' ∧ SimX cfg alias v nm (pre ++ [inst]) suf st' := by
  have hlive : ∀ i, i ∈ liveAt (inst :: suf) →
      getX (touchX st (cellX cfg alias (nm inst.out))) (cellX cfg alias (nm i)) = some (envV v pre i) :=
    fun i hi => getX_touchX _ _ _ _ (h i (Or.inl hi))
  have hev := evalX_ok nm (fun n => readX (touchX st (cellX cfg alias (nm inst.out))) (cellX cfg alias n))
    (envV v pre) inst.op (fun x hx => by simp only [readX, hlive x (mem_liveAt_cons.mpr (Or.inl hx))])
  refine ⟨updX (touchX st (cellX cfg alias (nm inst.out))) (cellX cfg alias (nm inst.out))
    (opVal (envV v pre) inst.op), by simp only [execInstX, nameInst, hev], fun i hi => ?_⟩
  rw [getX_updX, envV_snoc]
  by_cases hio : i = inst.out
  · subst hio; simp [stepVal, upd]
  · have hil : i ∈ liveAt suf := hi.resolve_right fun e => by
      rw [List.getLast?_concat] at e
      exact hio (Option.some.inj e).symm
    rw [if_neg (hdist i hil hio), hlive i (mem_liveAt_cons.mpr (Or.inr ⟨hil, hio⟩))]
    simp [stepVal, upd, hio]

theorem simX_run (cfg : Cfg α) (alias : Bool) (v : Int) (nm : Nat → α) (ir : List Inst)
    (hdist : ∀ pre inst suf, ir = pre ++ inst :: suf → ∀ j ∈ liveAt suf, j ≠ inst.out →
      cellX cfg alias (nm j) ≠ cellX cfg alias (nm inst.out)) :
    ∀ (mid pre : List Inst) (st : RegsX α), ir = pre ++ mid → SimX cfg alias v nm pre mid st →
    ∃ st', execX cfg alias (mid.map (nameInst nm)) st = .ok st' ∧ SimX cfg alias v nm ir [] st' := by
  intro mid
  induction mid with
  | nil => intro pre st hir h; exact ⟨st, rfl, by rwa [hir, List.append_nil]⟩
  | cons inst mid ih =>
    intro pre st hir h
    obtain ⟨st1, he, hs⟩ := simX_step cfg alias v nm pre inst mid st (hdist pre inst mid hir) h
    obtain ⟨st2, he2, hs2⟩ := ih (pre ++ [inst]) st1 (by rw [hir, List.append_assoc]; rfl) hs
    exact ⟨st2, by simp only [List.map_cons, execX, he]; exact he2, hs2⟩

end Sim

theorem opVal_linear (e0 e1 : Nat → Int) (v : Int) (h : ∀ i, e1 i = e0 i * v) (op : Op) :
    opVal e1 op = opVal e0 op * v := by
  cases op with
  | add x y => simp only [opVal, h, Int.add_mul]
  | dbl x => simp only [opVal, h, Int.mul_assoc]
  | shl x s => simp only [opVal, h, Int.mul_right_comm]

theorem foldl_stepVal_linear (v : Int) : ∀ (pre : List Inst) (e0 e1 : Nat → Int), (∀ i, e1 i = e0 i * v) →
    ∀ i, pre.foldl stepVal e1 i = pre.foldl stepVal e0 i * v := by
  intro pre
  induction pre with
  | nil => intro e0 e1 h i; exact h i
  | cons a r ih =>
    intro e0 e1 h i
    simp only [List.foldl_cons]
    apply ih
    intro j
    simp only [stepVal, upd]
    split
    · exact opVal_linear e0 e1 v h a.op
    · exact h j

theorem envV_linear (v : Int) (pre : List Inst) (i : Nat) : envV v pre i = envV 1 pre i * v := by
  unfold envV
  apply foldl_stepVal_linear
  intro j
  simp only [upd]
  split <;> simp

theorem allocateX_eq {α} (cfg : Cfg α) (ir : List Inst) (hne : ir ≠ []) :
    allocateX cfg ir = .ok (ir.map (nameInst (nameX cfg ir)),
      tempsOf cfg (buildA (regOf ir) (indexes ir))) := by
  cases ir with
  | nil => exact absurd rfl hne
  | cons a r => rfl

theorem allocateX_ok {α} {cfg : Cfg α} {ir : List Inst} {prog : List (NInst α)} {temps : List α}
    (h : allocateX cfg ir = .ok (prog, temps)) :
    ir ≠ [] ∧ prog = ir.map (nameInst (nameX cfg ir)) ∧ temps = tempsOf cfg (buildA (regOf ir) (indexes ir)) := by
  cases ir with
  | nil => cases h
  | cons a r =>
    rw [allocateX_eq cfg _ (List.cons_ne_nil a r)] at h
    cases h
    exact ⟨List.cons_ne_nil a r, rfl, rfl⟩

theorem nameX_cases {α} (cfg : Cfg α) (ir : List Inst) (i : Nat) (hi : i ∈ operandIdx ir) :
    nameX cfg ir i = cfg.input ∨ nameX cfg ir i = cfg.output ∨
      nameX cfg ir i ∈ tempsOf cfg (buildA (regOf ir) (indexes ir)) := by
  have hS := regOf_InS ir i hi
  unfold nameX
  cases h : regOf ir i with
  | x => exact Or.inl rfl
  | z => exact Or.inr (Or.inl rfl)
  | t w =>
    rw [h] at hS
    exact Or.inr (Or.inr (List.mem_map.mpr ⟨_, List.mem_range.mpr (pos_lt_of_mem _ w hS), rfl⟩))

theorem nameOp_inputs {α} (nm : Nat → α) (op : Op) : (nameOp nm op).inputs = op.inputs.map nm := by
  cases op <;> rfl

theorem usedNames_map {α} (nm : Nat → α) (ir : List Inst) :
    usedNames (ir.map (nameInst nm)) = (operandIdx ir).map nm := by
  induction ir with
  | nil => rfl
  | cons a r ih =>
    simp only [usedNames, operandIdx, List.map_cons, List.flatMap_cons, List.map_append] at ih ⊢
    rw [ih]
    simp [nameInst, nameOp_inputs]

end AC.AllocX
