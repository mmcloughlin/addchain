import AC.RT
/-! C07 prototype, statement level: whole scripts print and parse back. -/
namespace P.Peg

structure Stmt where
  name : List Char      -- [] for the return statement
  e : Expr
deriving DecidableEq

def eol : P Unit := lit ['\n']
def eof : P Unit := fun s e => if s = [] then (some ((), []), e) else (none, e)
/-- `__` : one or more blanks -/
def ws1 : P Unit := fun s e => match s with
  | c :: r => if isWs c then (some ((), r.dropWhile isWs), e) else (none, e)
  | [] => (none, e)
/-- `p?` for a unit parser: PEG optional never fails -/
def optU (p : P Unit) : P Unit := fun s e => match p s e with
  | (some r, e') => (some r, e')
  | (none, e') => (some ((), s), e')

def assignment (fuel : Nat) : P Stmt := do
  ws; let n ← ident; ws; lit ['=']; ws; let x ← expr fuel; ws; eol; pure ⟨n, x⟩
def retKw : P Unit := do lit "return".toList; ws1
def ret (fuel : Nat) : P Stmt := do
  ws; optU retKw; let x ← expr fuel; ws; optU eol; pure ⟨[], x⟩

def starA (fuel : Nat) : Nat → List Stmt → P (List Stmt)
  | 0, acc => ppure acc
  | k+1, acc => fun s e => match assignment fuel s e with
    | (some (st, s'), e') => starA fuel k (acc ++ [st]) s' e'
    | (none, e') => (some (acc, s), e')

def chainP (fuel : Nat) : P (List Stmt) := fun s e =>
  (do let as ← starA fuel s.length []; let r ← ret fuel; ws; eof; pure (as ++ [r]) : P (List Stmt)) s e

/-! The printer: `name <pad> = expr \n` and `return <pad> expr \n`, any padding ≥ 1. -/
def spaces (k : Nat) : List Char := List.replicate k ' '
def printAssign (pad : Nat) (st : Stmt) : List Char :=
  st.name ++ spaces (pad + 1) ++ '=' :: ' ' :: body st.e ++ ['\n']
def printRet (pad : Nat) (x : Expr) : List Char :=
  "return".toList ++ spaces (pad + 1) ++ body x ++ ['\n']

theorem dropWs_spaces (k : Nat) (r : List Char) : dropWs (spaces k ++ r) = dropWs r := by
  induction k with
  | zero => rfl
  | succ k ih => exact ih

theorem reads_optU {p : P Unit} {s s' : List Char} (h : Reads p s () s') : Reads (optU p) s () s' :=
  ⟨fun e => by simp only [optU, h.run e]⟩

theorem reads_eof : Reads eof [] () [] := ⟨fun _ => rfl⟩

/-! The statement rules over any tree and statement type, on a printed line.
`b` is the text of the expression, `ex` the expression rule. -/
namespace Gram
variable {E S : Type}

/-- `Assignment <- _ n:Identifier _ '=' _ e:Expr _ EOL` -/
def assignment (ex : P E) (mk : List Char → E → S) : P S := do
  ws; let n ← ident; ws; lit ['=']; ws; let x ← ex; ws; eol; pure (mk n x)
/-- `Return <- _ ("return" __)? e:Expr _ EOL?` -/
def ret (ex : P E) (mk : E → S) : P S := do
  ws; optU retKw; let x ← ex; ws; optU eol; pure (mk x)

def lineA (p : Nat) (n b : List Char) : List Char := n ++ (spaces (p + 1) ++ ('=' :: ' ' :: (b ++ ['\n'])))
def lineR (p : Nat) (b : List Char) : List Char := "return".toList ++ (spaces (p + 1) ++ (b ++ ['\n']))

theorem return_toList : "return".toList = ['r', 'e', 't', 'u', 'r', 'n'] := by decide

theorem return_length : "return".toList.length = 6 := congrArg List.length return_toList

theorem validIdent_return : ValidIdent "return".toList :=
  return_toList ▸ ⟨'r', ['e', 't', 'u', 'r', 'n'], rfl, by decide, by decide⟩

theorem dropWs_return (r : List Char) : dropWs ("return".toList ++ r) = "return".toList ++ r := by
  rw [return_toList]; rfl

theorem length_lineA (p : Nat) (n b : List Char) : (lineA p n b).length = n.length + p + b.length + 4 := by
  simp only [lineA, spaces, List.length_append, List.length_cons, List.length_replicate, List.length_nil]
  omega
theorem length_lineR (p : Nat) (b : List Char) : (lineR p b).length = p + b.length + 8 := by
  simp only [lineR, return_toList, spaces, List.length_append, List.length_cons, List.length_replicate,
    List.length_nil]
  omega

variable {ex : P E} {n b rest : List Char} {x : E}

theorem reads_assignment {mk : List Char → E → S} (p : Nat) (hn : ValidIdent n)
    (hw : dropWs (b ++ '\n' :: rest) = b ++ '\n' :: rest)
    (hx : Reads ex (b ++ '\n' :: rest) x ('\n' :: rest)) :
    Reads (assignment ex mk) (lineA p n b ++ rest) (mk n x) rest := by
  have hs : lineA p n b ++ rest = n ++ ' ' :: (spaces p ++ '=' :: ' ' :: (b ++ '\n' :: rest)) := by
    simp [lineA, spaces, List.replicate_succ]
  rw [hs]
  have hid := reads_ident hn (endTok_cons (r := spaces p ++ '=' :: ' ' :: (b ++ '\n' :: rest)) (c := ' ') (by decide))
  obtain ⟨c, cs, rfl, hc, hcs⟩ := hn
  apply (reads_ws_of (dropWs_cons (not_isWs_of_isIdChar (isIdChar_of_isIdStart hc)) _)).bind
  apply hid.bind
  apply (reads_ws_of ((dropWs_spaces (p + 1) _).trans (dropWs_cons (by decide) _))).bind
  apply (reads_char '=' _).bind
  apply (reads_ws_of ((dropWs_blank _).trans hw)).bind
  apply hx.bind
  apply (reads_ws_of (dropWs_cons (by decide) _)).bind
  apply (reads_char '\n' rest).bind
  exact reads_pure _ _

/-- the assignment rule fails on a return line (so the `*` loop stops there): `return` is read
    as the name, and no `=` follows -/
theorem fails_assignment_ret {mk : List Char → E → S} (p : Nat) {c : Char} {tl : List Char}
    (hb : b = c :: tl) (hg : GoodHead c) : Fails (assignment ex mk) (lineR p b ++ rest) := by
  have hs : lineR p b ++ rest = "return".toList ++ ' ' :: (spaces p ++ c :: (tl ++ '\n' :: rest)) := by
    simp [lineR, spaces, List.replicate_succ, hb]
  rw [hs]
  apply (reads_ws_of (dropWs_return _)).bind_fails
  apply (reads_ident validIdent_return (endTok_cons (by decide))).bind_fails
  apply (reads_ws_of ((dropWs_spaces (p + 1) _).trans (dropWs_cons (goodHead_not_ws hg).1 _))).bind_fails
  exact (fails_lit_head (goodHead_not_ws hg).2.symm _ _).bind

theorem reads_ret {mk : E → S} (p : Nat) (hw : dropWs (b ++ ['\n']) = b ++ ['\n'])
    (hx : Reads ex (b ++ ['\n']) x ['\n']) : Reads (ret ex mk) (lineR p b) (mk x) [] := by
  apply (reads_ws_of (dropWs_return _)).bind
  have hkw : Reads retKw (lineR p b) () (b ++ ['\n']) := by
    apply (reads_lit "return".toList _).bind
    refine ⟨fun e => ?_⟩
    show (some ((), dropWs (spaces p ++ (b ++ ['\n']))), e) = _
    rw [dropWs_spaces, hw]
  apply (reads_optU hkw).bind
  apply hx.bind
  apply (reads_ws_of (dropWs_cons (by decide) _)).bind
  apply (reads_optU (reads_char '\n' [])).bind
  exact reads_pure _ _

/-- `Chain <- as:Assignment* r:Return _ EOF` once the loop has been run on the text -/
theorem run_chain {star : P (List S)} {rt : P S} {s s1 : List Char} {as : List S} {r : S}
    (h1 : Reads star s as s1) (h2 : Reads rt s1 r []) (e : Bool) :
    (do let as ← star; let r ← rt; ws; eof; pure (as ++ [r]) : P (List S)) s e = (some (as ++ [r], []), e) := by
  refine Reads.run ?_ e
  apply h1.bind
  apply h2.bind
  apply (reads_ws []).bind
  apply reads_eof.bind
  exact reads_pure _ _

/-- a `*` loop whose rule reads every one of the lines and fails on what follows them returns
    exactly the lines; `txt as` is the text of the lines `as` and of what follows -/
theorem star_lines {step : P S} {loop : Nat → List S → P (List S)}
    (hl : IsStar step (fun acc st => acc ++ [st]) loop) {txt : List S → List Char} {line : S → List Char}
    (hnil : Fails step (txt [])) (hcons : ∀ st as, txt (st :: as) = line st ++ txt as) :
    ∀ (as : List S) (k : Nat) (acc : List S), as.length < k →
      (∀ st ∈ as, ∀ rest, Reads step (line st ++ rest) st rest) →
      Reads (loop k acc) (txt as) (acc ++ as) (txt []) := by
  intro as
  induction as with
  | nil => intro k acc _ _; rw [List.append_nil]; exact star_stop hl hnil k acc
  | cons st as ih =>
    intro k acc hk hall
    cases k with
    | zero => cases hk
    | succ k =>
      refine ⟨fun e => ?_⟩
      rw [hcons, star_turn hl (hall st List.mem_cons_self _) k acc e, List.append_cons acc st as]
      exact (ih k (acc ++ [st]) (Nat.lt_of_succ_lt_succ hk) (fun s hs => hall s (List.mem_cons_of_mem _ hs))).run e

end Gram

theorem expr_nl (fuel : Nat) (x : Expr) (rest : List Char) (hx : WF x) (hf : pdepth x < fuel) :
    Reads (expr fuel) (body x ++ '\n' :: rest) x ('\n' :: rest) := ⟨fun e => by
  obtain ⟨h1, h2⟩ := noOp_of_head (c := '\n') rest (by decide) (by decide)
  rw [expr_rt fuel x hx hf ('\n' :: rest) e (endTok_cons (by decide)) h1 h2, dropWs_cons (by decide)]⟩

theorem printAssign_eq (pad : Nat) (st : Stmt) : printAssign pad st = Gram.lineA pad st.name (body st.e) := by
  simp only [printAssign, Gram.lineA, List.append_assoc, List.cons_append]
theorem printRet_eq (pad : Nat) (x : Expr) : printRet pad x = Gram.lineR pad (body x) := by
  unfold printRet Gram.lineR
  rw [List.append_assoc, List.append_assoc]

theorem assignment_ok (fuel pad : Nat) (st : Stmt) (rest : List Char) (e : Bool)
    (hn : ValidIdent st.name) (hx : WF st.e) (hf : pdepth st.e < fuel) :
    assignment fuel (printAssign pad st ++ rest) e = (some (st, rest), e) :=
  printAssign_eq pad st ▸
    (Gram.reads_assignment (mk := Stmt.mk) pad hn (dropWs_body hx _) (expr_nl fuel st.e rest hx hf)).run e

theorem assignment_fail_ret (fuel pad : Nat) (x : Expr) (rest : List Char) (e : Bool) (hx : WF x) :
    assignment fuel (printRet pad x ++ rest) e = (none, e) := by
  obtain ⟨c, tl, hb, hg⟩ := body_head hx
  exact printRet_eq pad x ▸ (Gram.fails_assignment_ret (ex := expr fuel) (mk := Stmt.mk) pad hb hg).run e

theorem ret_ok (fuel pad : Nat) (x : Expr) (e : Bool) (hx : WF x) (hf : pdepth x < fuel) :
    ret fuel (printRet pad x) e = (some (⟨[], x⟩, []), e) :=
  printRet_eq pad x ▸
    (Gram.reads_ret (mk := Stmt.mk []) pad (dropWs_body hx _) (expr_nl fuel x [] hx hf)).run e

def printAll (pad : Nat) : List Stmt → Expr → List Char
  | [], x => printRet pad x
  | st :: r, x => printAssign pad st ++ printAll pad r x

theorem length_lt_printAll (pad : Nat) (as : List Stmt) (x : Expr) :
    as.length < (printAll pad as x).length := by
  induction as with
  | nil => rw [printAll, printRet_eq, Gram.length_lineR]; exact Nat.succ_pos _
  | cons st r ih =>
    rw [printAll, List.length_append, printAssign_eq, Gram.length_lineA, List.length_cons]
    omega

theorem starA_isStar (fuel : Nat) : Gram.IsStar (assignment fuel) (fun acc st => acc ++ [st]) (starA fuel) :=
  ⟨fun _ => rfl, fun h => by simp only [starA, h], fun h => by simp only [starA, h]⟩

theorem starA_ok (fuel pad : Nat) : ∀ (as : List Stmt) (k : Nat) (acc : List Stmt) (x : Expr) (e : Bool),
    as.length < k → (∀ st ∈ as, ValidIdent st.name ∧ WF st.e ∧ pdepth st.e < fuel) → WF x →
    starA fuel k acc (printAll pad as x) e = (some (acc ++ as, printRet pad x), e) :=
  fun as k acc x e hk hall hx =>
    (Gram.star_lines (starA_isStar fuel) (txt := fun as => printAll pad as x) (line := printAssign pad)
      ⟨fun e => by have h := assignment_fail_ret fuel pad x [] e hx; rwa [List.append_nil] at h⟩
      (fun _ _ => rfl)
      as k acc hk fun st hst rest =>
        ⟨fun e => assignment_ok fuel pad st rest e (hall st hst).1 (hall st hst).2.1 (hall st hst).2.2⟩).run e

/-- **C07, script level**: a whole script — assignments with valid names, then the return
    statement — printed with any padding parses back to itself. -/
theorem chain_roundtrip (fuel pad : Nat) (as : List Stmt) (x : Expr)
    (hall : ∀ st ∈ as, ValidIdent st.name ∧ WF st.e ∧ pdepth st.e < fuel) (hx : WF x) (hf : pdepth x < fuel) :
    chainP fuel (printAll pad as x) false = (some (as ++ [⟨[], x⟩], []), false) := by
  have h1 : Reads (starA fuel (printAll pad as x).length []) (printAll pad as x) as (printRet pad x) :=
    ⟨fun e => by simpa using starA_ok fuel pad as _ [] x e (length_lt_printAll pad as x) hall hx⟩
  have h2 : Reads (ret fuel) (printRet pad x) ⟨[], x⟩ [] := ⟨fun e => ret_ok fuel pad x e hx hf⟩
  exact Gram.run_chain h1 h2 false

end P.Peg
