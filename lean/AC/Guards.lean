import AC.Hybrid
/-! C15 prototype: guard lemmas — the partial operations of the Go code are never reached with
    bad arguments. Example: `dictsumchain` indexes `sum[len(sum)-1]`, so every decomposition of
    x ≥ 1 must be non-empty. -/
namespace P.Bits

theorem testBit_log2 (x : Nat) (hx : 1 ≤ x) : x.testBit (Nat.log2 x) = true :=
  Nat.testBit_log2 (Nat.ne_of_gt hx)

theorem sliding_nonempty (x K : Nat) (hx : 1 ≤ x) : sliding x K (Nat.log2 x + 2) (Nat.log2 x + 1) ≠ [] := by
  -- the scan starts at the top bit, which is set, so its first step emits a term
  rw [sliding, if_pos (testBit_log2 x hx)]
  exact List.cons_ne_nil _ _

theorem runLen_nonempty (x T : Nat) (hx : 1 ≤ x) : runLen x T (Nat.log2 x + 2) (Nat.log2 x + 1) ≠ [] := by
  rw [runLen, if_pos (testBit_log2 x hx)]
  exact List.cons_ne_nil _ _

theorem nonempty_of_value (s : List Term) (x : Nat) (hx : 1 ≤ x) (h : value s = x) : s ≠ [] := by
  rintro rfl; exact Nat.ne_of_gt hx h.symm

theorem hybrid_nonempty (x K T : Nat) (hK : 1 ≤ K) (hx : 1 ≤ x) : hybrid x K T ≠ [] :=
  nonempty_of_value _ x hx (hybrid_spec x K T hK).1

end P.Bits
