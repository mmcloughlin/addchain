/-! Lists with one cell per worker, of which a step changes one: counting a predicate and keeping a
pointwise property across `List.set`. Used by both transition systems of `exec.Parallel.Execute`. -/
namespace P.Cell
variable {α β : Type}

theorem countP_pos (f : α → Bool) {l : List α} {i : Nat} {p : α} (h : l[i]? = some p)
    (hp : f p = true) : 0 < l.countP f :=
  List.countP_pos_iff.mpr ⟨p, List.mem_of_getElem? h, hp⟩

theorem countP_set (f : α → Bool) {l : List α} {i : Nat} {p : α} (q : α) (h : l[i]? = some p) :
    (l.set i q).countP f + (f p).toNat = l.countP f + (f q).toNat := by
  obtain ⟨hi, rfl⟩ := List.getElem_of_getElem? h
  have e : ∀ b : Bool, (if b = true then 1 else 0) = b.toNat := fun b => by cases b <;> rfl
  rw [List.countP_set hi, e, e]
  cases hp : f l[i]
  · rfl
  · exact (Nat.add_right_comm ..).trans (congrArg (· + _) (Nat.sub_add_cancel (countP_pos f h hp)))

theorem countP_set_same (f : α → Bool) {l : List α} {i : Nat} {p q : α} (h : l[i]? = some p)
    (hpq : f p = f q) : (l.set i q).countP f = l.countP f :=
  Nat.add_right_cancel (hpq ▸ countP_set f q h)

theorem countP_set_gain (f : α → Bool) {l : List α} {i : Nat} {p q : α} (h : l[i]? = some p)
    (hp : f p = false) (hq : f q = true) : (l.set i q).countP f = l.countP f + 1 := by
  have := countP_set f q h
  rwa [hp, hq] at this

theorem eq_of_getElem?_replicate {n i : Nat} {a b : α} (h : (List.replicate n a)[i]? = some b) :
    b = a :=
  List.eq_of_mem_replicate (List.mem_of_getElem? h)

theorem eq_of_getElem?_set_self {l : List α} {j : Nat} {q a : α} (h : (l.set j q)[j]? = some a) :
    a = q := by
  rw [List.getElem?_set, if_pos rfl] at h
  split at h
  · exact (Option.some.inj h).symm
  · cases h

/-- A pointwise property of a list survives the change of cell `j`; the property may itself change
    from `P` to `Q`, as long as `P` implies `Q` away from `j`. -/
theorem forall_set {P Q : Nat → α → Prop} {l : List α} {j : Nat} {q : α}
    (h : ∀ i a, l[i]? = some a → P i a) (hne : ∀ i a, i ≠ j → P i a → Q i a) (hj : Q j q) :
    ∀ i a, (l.set j q)[i]? = some a → Q i a := by
  intro i a ha
  by_cases hij : j = i
  · subst hij
    rw [eq_of_getElem?_set_self ha]; exact hj
  · rw [List.getElem?_set_ne hij] at ha
    exact hne i a (Ne.symm hij) (h i a ha)

/- The same for a relation between the cells of two lists, changed at `j` on the left, on the
   right, or on both sides. -/

theorem forall₂_set_left {R : α → β → Prop} {l : List α} {m : List β} {j : Nat} {a' : α}
    (h : ∀ (i : Nat) a b, l[i]? = some a → m[i]? = some b → R a b)
    (hj : ∀ b, m[j]? = some b → R a' b) :
    ∀ (i : Nat) a b, (l.set j a')[i]? = some a → m[i]? = some b → R a b :=
  fun i a b ha hb =>
    forall_set (P := fun i a => ∀ b, m[i]? = some b → R a b) (fun i a ha b hb => h i a b ha hb)
      (fun _ _ _ hP => hP) hj i a ha b hb

theorem forall₂_set_right {R : α → β → Prop} {l : List α} {m : List β} {j : Nat} {b' : β}
    (h : ∀ (i : Nat) a b, l[i]? = some a → m[i]? = some b → R a b)
    (hj : ∀ a, l[j]? = some a → R a b') :
    ∀ (i : Nat) a b, l[i]? = some a → (m.set j b')[i]? = some b → R a b :=
  fun i a b ha hb =>
    forall_set (P := fun i b => ∀ a, l[i]? = some a → R a b) (fun i b hb a ha => h i a b ha hb)
      (fun _ _ _ hP => hP) hj i b hb a ha

theorem forall₂_set {R : α → β → Prop} {l : List α} {m : List β} {j : Nat} {a' : α} {b' : β}
    (h : ∀ (i : Nat) a b, l[i]? = some a → m[i]? = some b → R a b) (hj : R a' b') :
    ∀ (i : Nat) a b, (l.set j a')[i]? = some a → (m.set j b')[i]? = some b → R a b :=
  fun i a b ha hb =>
    forall_set (P := fun i a => ∀ b, m[i]? = some b → R a b)
      (Q := fun i a => ∀ b, (m.set j b')[i]? = some b → R a b) (fun i a ha b hb => h i a b ha hb)
      (fun _ _ hij hP b hb => hP b (by rwa [List.getElem?_set_ne (Ne.symm hij)] at hb))
      (fun b hb => by rw [eq_of_getElem?_set_self hb]; exact hj) i a ha b hb

theorem countP_le_of_forall₂ {f : α → Bool} {g : β → Bool} {l : List α} : ∀ {m : List β},
    l.length = m.length →
    (∀ (i : Nat) a b, l[i]? = some a → m[i]? = some b → f a = true → g b = true) →
    l.countP f ≤ m.countP g := by
  induction l with
  | nil => intros; exact Nat.zero_le _
  | cons a l ih =>
    intro m hl h
    cases m with
    | nil => cases hl
    | cons b m =>
      have ih := ih (Nat.succ.inj hl) fun (i : Nat) a b ha hb => h (i + 1) a b ha hb
      rw [List.countP_cons, List.countP_cons]
      by_cases ha : f a = true
      · rw [if_pos ha, if_pos (h 0 a b rfl rfl ha)]; exact Nat.add_le_add_right ih 1
      · rw [if_neg ha]; exact Nat.le_trans ih (Nat.le_add_right _ _)

end P.Cell
