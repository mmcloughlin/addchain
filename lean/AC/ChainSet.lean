import AC.ChainFacts
/-! Foundation for C01/C08: sorting and de-duplicating (`sortUniq`) gives a strictly ascending list with
    the same members, which is an addition chain when the members are sum-closed (`chain_of_closed`). -/
namespace P

/-- `bigints.Unique`: drop consecutive duplicates -/
def uniq : List Int → List Int
  | [] => []
  | [x] => [x]
  | x :: y :: r => if x = y then uniq (y :: r) else x :: uniq (y :: r)

def sortUniq (l : List Int) : List Int := uniq (l.mergeSort (fun a b => a ≤ b))

theorem mem_uniq (l : List Int) (a : Int) : a ∈ uniq l ↔ a ∈ l := by
  induction l using uniq.induct_unfolding with
  | case1 => rfl
  | case2 x => rfl
  | case3 x r ih =>
    rw [ih, List.mem_cons (l := x :: r)]
    exact (or_iff_right_of_imp fun e => e ▸ List.mem_cons_self).symm
  | case4 x y r hne ih => rw [List.mem_cons, ih, List.mem_cons (b := x)]

theorem uniq_cons_eq (x : Int) (l : List Int) : ∃ t, uniq (x :: l) = x :: t := by
  induction l generalizing x with
  | nil => exact ⟨[], rfl⟩
  | cons y r ih =>
    rw [uniq]
    split
    · next h => exact h ▸ ih y
    · exact ⟨_, rfl⟩

theorem pairwise_uniq (l : List Int) (h : l.Pairwise (· ≤ ·)) : (uniq l).Pairwise (· < ·) := by
  induction l using uniq.induct_unfolding with
  | case1 => exact List.Pairwise.nil
  | case2 x => exact List.pairwise_singleton _ _
  | case3 x r ih => exact ih (List.pairwise_cons.mp h).2
  | case4 x y r hne ih =>
    obtain ⟨hx, hr⟩ := List.pairwise_cons.mp h
    refine List.pairwise_cons.mpr ⟨fun a ha => ?_, ih hr⟩
    have hxy : x < y := Int.lt_iff_le_and_ne.2 ⟨hx y List.mem_cons_self, hne⟩
    rcases List.mem_cons.mp ((mem_uniq _ a).1 ha) with rfl | ha
    · exact hxy
    · exact Int.lt_of_lt_of_le hxy (List.rel_of_pairwise_cons hr ha)

theorem mem_sortUniq (l : List Int) (a : Int) : a ∈ sortUniq l ↔ a ∈ l := by
  unfold sortUniq
  rw [mem_uniq]
  exact (List.mergeSort_perm l _).mem_iff

theorem pairwise_mergeSort_le (l : List Int) :
    (l.mergeSort (fun a b => decide (a ≤ b))).Pairwise (· ≤ ·) :=
  (List.pairwise_mergeSort (le := fun (a b : Int) => decide (a ≤ b))
    (fun _ _ _ h1 h2 => decide_eq_true (Int.le_trans (of_decide_eq_true h1) (of_decide_eq_true h2)))
    (fun a b => by simpa using Int.le_total a b) l).imp of_decide_eq_true

theorem pairwise_sortUniq (l : List Int) : (sortUniq l).Pairwise (· < ·) :=
  pairwise_uniq _ (pairwise_mergeSort_le l)

theorem last_of_bound (c : List Int) (n : Int) (hasc : c.Pairwise (· < ·)) (hn : n ∈ c) (hle : ∀ x ∈ c, x ≤ n) :
    c.getLast? = some n := by
  obtain ⟨i, hi, rfl⟩ := index_of_mem c n hn
  have hl := Nat.sub_lt (List.length_pos_iff.2 (List.ne_nil_of_mem hn)) Nat.one_pos
  -- a later position would hold a larger member
  have : ¬ i < c.length - 1 := fun hlt => Int.lt_irrefl _
    (Int.lt_of_lt_of_le (at'_lt_of_pairwise c hasc i _ hlt hl) (hle _ (at'_mem_of_lt c _ hl)))
  obtain rfl : i = c.length - 1 := Nat.le_antisymm (Nat.le_sub_one_of_lt hi) (Nat.le_of_not_lt this)
  rw [List.getLast?_eq_getElem?, at', List.getD_eq_getElem?_getD, List.getElem?_eq_getElem hi]
  rfl

end P
