import AC.Drv.Proto
import AC.SeqAlg
import AC.ChainX
import AC.HeurSound
import AC.Gen.ProgramFns
/-! driver handler for C08: `c08 <alg code> <targets> <impl: err|panic|chain> <values-unchanged>` -/
namespace AC.Drv
open P

def pHeurAtom : String → Option Heur
  | "H" => some .halving | "D" => some .deltaLargest | "A" => some .approximation | _ => none

def pStrategy : String → Option Strategy
  | "binary" => some .binary | "co_binary" => some .coBinary | "dichotomic" => some .dichotomic
  | "sqrt" => some .sqrt | "total" => some .total | "dyadic" => some .dyadic | "fermat" => some .fermat
  | _ => none

/-- `hr.H`, `hr.U.H.D`, `cf.dichotomic` -/
def pSeqAlg (s : String) : Option SeqAlg :=
  match s.splitOn "." with
  | ["cf", st] => (pStrategy st).map .contfrac
  | ["hr", a] => (pHeurAtom a).map .heuristic
  | "hr" :: "U" :: rest => (rest.mapM pHeurAtom).map fun hs => .heuristic (.useFirst hs)
  | _ => none

def SeqAlg.isTotalB : SeqAlg → Bool
  | .heuristic h => h.isTotal
  | .contfrac _ => true

def handleC08 (f : List String) : Res :=
  match f with
  | [alg, ts, impl, unch] =>
    match pSeqAlg alg, pInts ts with
    | some a, some T =>
      let r : Res := {}
      let m := match a.find T with | some c => showInts c | none => "err"
      let r := cmp "findsequence" m impl r
      let r := specIf "target-values-unchanged" (unch == "1") r
      let r := match pInts impl with
        | some c =>
          let r := specIf "valid-chain" (isChainO c) r
          specIf "contains-every-target" (T.all (c.contains ·)) r
        | none =>
          if impl == "err" && !SeqAlg.isTotalB a then r   -- a partial heuristic may report failure
          else specIf (if impl == "err" then "no-error" else "no-panic") false r
      let big := (T.filter (· > 2)).eraseDups.length ≥ 2
      { r with nt := big, tag := s!"alg={alg},out={if impl == "err" then "err" else "ok"}" }
    | _, _ => bad "c08-parse"
  | _ => bad "c08-arity"

/-- `c08s <H|D> <f> <target> <impl: nil|panic|list>`: one `Suggest` call; the model and the function
    translated from heuristic.go must both agree with the implementation -/
def handleC08s (f : List String) : Res :=
  match f with
  | [code, fs, ts, impl] =>
    match pInts fs, pInt ts with
    | some fl, some t =>
      let r : Res := {}
      let showO : Option (List Int) → String
        | none => "panic" | some [] => "nil" | some l => showInts l
      let r := if code == "H" then
          let r := cmp "halving-model" (match P.suggestHalving fl t with | none => "nil" | some l => showInts l) impl r
          cmp "translated-halving" (showO (AC.Gen.Program.heuristicHalvingSuggest fl t)) impl r
        else if code == "A" then
          let r := cmp "approximation-model" (match P.suggestApprox fl t with | none => "nil" | some l => showInts l) impl r
          cmp "translated-approximation" (showO (AC.Gen.Program.heuristicApproximationSuggest fl t)) impl r
        else
          let last := fl.getLastD 0
          let r := cmp "deltalargest-model" (if t - last ≤ 0 then "panic" else showInts [t - last]) impl r
          cmp "translated-deltalargest" (showO (AC.Gen.Program.heuristicDeltaLargestSuggest fl t)) impl r
      { r with spec := "na", nt := fl.length ≥ 2, tag := s!"suggest={code},out={if impl == "nil" || impl == "panic" then impl else "list"}" }
    | _, _ => bad "c08s-parse"
  | _ => bad "c08s-arity"

/-- `c08k <strategy> <n> <impl: panic|list>`: one `Strategy.K` call -/
def handleC08k (f : List String) : Res :=
  match f with
  | [st, ns, impl] =>
    match pStrategy st, pInt ns with
    | some s, some n =>
      let r : Res := {}
      let r := cmp "strategy-k-model" (showInts (s.K n)) impl r
      let showO : Option (List Int) → String | none => "panic" | some l => showInts l
      let r := match s with
        | .binary => cmp "translated-binary-k" (showO (AC.Gen.Program.contfracBinaryStrategyK n)) impl r
        | .coBinary => cmp "translated-cobinary-k" (showO (AC.Gen.Program.contfracCoBinaryStrategyK n)) impl r
        | .dichotomic => cmp "translated-dichotomic-k" (showO (AC.Gen.Program.contfracDichotomicStrategyK n)) impl r
        | .dyadic => cmp "translated-dyadic-k" (showO (AC.Gen.Program.contfracDyadicStrategyK n)) impl r
        | .fermat => cmp "translated-fermat-k" (showO (AC.Gen.Program.contfracFermatStrategyK n)) impl r
        | .total => cmp "translated-total-k" (showO (AC.Gen.Program.contfracTotalStrategyK n)) impl r
        | .sqrt => cmp "translated-sqrt-k" (showO (AC.Gen.Program.contfracSqrtStrategyK n)) impl r
      { r with spec := "na", nt := decide (n ≥ 4), tag := s!"strategy-k={st}" }
    | _, _ => bad "c08k-parse"
  | _ => bad "c08k-arity"

end AC.Drv
