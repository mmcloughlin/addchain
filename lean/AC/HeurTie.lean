import AC.BigintsTie
import AC.HeurSound
import AC.CF
import AC.ProgramTie
import AC.GoLoops
/-! # The translated heuristics' `Suggest` and continued-fraction strategies' `K` equal their models (C08)

Regenerated from alg/heuristic/heuristic.go and alg/contfrac/contfrac.go on every run
(`AC/Gen/ProgramFns.lean`). The Go functions return a nil slice for "no suggestion"; the translation cannot
tell nil from empty, and the non-nil results are never empty, so `[]` stands for the model's `none`.
Every loop runs on a fuel counter the translator computed. `Halving` and `total` count up to a known bound and
are tied at exactly that fuel; the ties of `dyadic`, `fermat` and `Approximation` are stated for every fuel that
bounds the loop variable, so the model's own fuel needs no lemma. -/
namespace AC.HeurTie
open AC.Gen.Program AC.GoPrim AC.BigPrim P

theorem bBitLen_of_nonneg (r : Int) (hr : 0 ≤ r) : bBitLen r = ((bitLenN r.toNat : Nat) : Int) := by
  obtain ⟨m, rfl⟩ := Int.eq_ofNat_of_zero_le hr
  exact bBitLen_natCast m

theorem halving_loop_tie (k : Int) (u : Nat) (f : List Int) (target n mx next r : Int) :
    heuristicHalvingSuggest_loop1 (u + 1) 0 f target n mx next r (u : Int) k [] =
      heuristicHalvingSuggest_loop1 0 ((u + 1 : Nat) : Int) f target n mx next r (u : Int) k
        ((List.range (u + 1)).map (fun i => k * 2 ^ i)) := by
  rw [List.range_eq_range']
  refine (appendLoop (fun m e ks => heuristicHalvingSuggest_loop1 m e f target n mx next r (u : Int) k ks)
    (fun i => k * 2 ^ i) (u + 1) (fun m e ks _ => ?_) (u + 1) 0 [] (Nat.le_of_eq (Nat.zero_add _))).trans
    (by rw [Nat.zero_add]; rfl)
  simp only [heuristicHalvingSuggest_loop1, goUint_natCast, Option.bind_eq_bind, Option.bind_some, bLsh]

theorem halving_tie (f : List Int) (t : Int) (hf : f ≠ []) (hnext : 0 < f.getLastD 0) (ht : 0 ≤ t) :
    heuristicHalvingSuggest f t = some ((suggestHalving f t).getD []) := by
  obtain ⟨l, hl⟩ := Option.isSome_iff_exists.1 (List.getLast?_isSome.2 hf)
  have hld : f.getLastD 0 = l := by rw [List.getLastD_eq_getLast?, hl]; rfl
  rw [hld] at hnext
  have hdiv : bDiv t l = some (t / l) := if_neg (Int.ne_of_gt hnext)
  unfold heuristicHalvingSuggest suggestHalving
  simp only [idx_len_sub_one, hl, hdiv, Option.bind_eq_bind, Option.bind_some, hld,
    bBitLen_of_nonneg _ (Int.ediv_nonneg ht (Int.le_of_lt hnext))]
  generalize bitLenN (t / l).toNat = b
  have hlt : ((b : Int) < 2) ↔ b < 2 := Int.ofNat_lt (m := 2)
  simp only [hlt, decide_eq_true_eq]
  by_cases hb : b < 2
  · rw [if_pos hb, if_pos hb]; rfl
  · obtain ⟨u, rfl⟩ := Nat.exists_eq_add_one_of_ne_zero (n := b) fun h0 => hb (h0 ▸ Nat.zero_lt_two)
    have hget : idx ((List.range (u + 1)).map (fun i => t / 2 ^ u * 2 ^ i)) (u : Int) = some (t / 2 ^ u * 2 ^ u) := by
      rw [idx_natCast, List.getElem?_map, List.getElem?_range (Nat.lt_succ_self u)]; rfl
    rw [if_neg hb, if_neg hb, Int.natCast_add_one,
      Int.add_sub_cancel, goUint_natCast, Option.bind_some, Int.sub_zero,
      ← Int.natCast_add_one, Int.toNat_natCast, bRsh_eq_div, halving_loop_tie, Nat.add_sub_cancel]
    -- what follows the loop: `d = t - kshifts[u]`, and the insertion unless `d` is zero
    simp only [heuristicHalvingSuggest_loop1, hget, Option.bind_eq_bind, Option.bind_some, bSub, AC.BigintTie.isZero_eq,
      decide_eq_true_eq]
    rw [sliceTo_natCast _ u (by simp), AC.BigintsTie.insertSortedUnique_tie]
    split <;> rfl

theorem bSign_neg (d : Int) : decide (bSign d < 0) = decide (d < 0) :=
  decide_eq_decide.2 (bSign_lt_zero_iff d)

theorem deltaLargest_tie (f : List Int) (t l : Int) (hl : f.getLast? = some l) :
    heuristicDeltaLargestSuggest f t = if t - l ≤ 0 then none else some [t - l] := by
  simp only [heuristicDeltaLargestSuggest, idx_len_sub_one, hl, Option.bind_eq_bind, Option.bind_some, bSub,
    bSign_le_zero_iff, decide_eq_true_eq]
  split <;> rfl

theorem binaryK_tie (n : Int) : contfracBinaryStrategyK n = some (Strategy.K .binary n) := by
  rw [contfracBinaryStrategyK, bRsh_eq_div]; rfl

theorem coBinaryK_tie (n : Int) (hn : 0 ≤ n) : contfracCoBinaryStrategyK n = some (Strategy.K .coBinary n) := by
  obtain ⟨m, rfl⟩ := Int.eq_ofNat_of_zero_le hn
  have hbit : bBit (m : Int) 0 = some (if (m : Int) % 2 = 1 then 1 else 0) := by
    have : m % 2 = 1 ↔ (m : Int) % 2 = 1 := by omega
    simp [bBit, Nat.testBit_zero, this]
  simp only [contfracCoBinaryStrategyK, Strategy.K, AC.Gen.Bigint.clone, bSet, hbit, Option.bind_eq_bind,
    Option.bind_some, bRsh_eq_div, bAdd]
  split <;> rfl

theorem dichotomicK_tie (n : Int) (hn : 0 ≤ n) :
    contfracDichotomicStrategyK n = some (Strategy.K .dichotomic n) := by
  simp only [contfracDichotomicStrategyK, Strategy.K, bBitLen_of_nonneg n hn, goUint,
    if_neg (Int.not_lt.2 (Int.natCast_nonneg _)), Int.toNat_natCast, Option.bind_eq_bind, Option.bind_some,
    AC.BigintTie.pow2_eq, bDiv, if_neg (Int.ne_of_gt (Int.pow_pos (by decide : (0 : Int) < 2)))]
  rfl

theorem sqrtK_tie (n : Int) (hn : 0 ≤ n) : contfracSqrtStrategyK n = some (Strategy.K .sqrt n) := by
  rw [contfracSqrtStrategyK, bSqrt, if_neg (Int.not_lt.2 hn)]; rfl

theorem containsSorted_eq (f : List Int) (hs : f.Pairwise (· ≤ ·)) (x : Int) :
    bigintsContainsSorted x f = f.contains x := by
  unfold bigintsContainsSorted
  rw [Bool.eq_iff_iff, P.Helpers.containsSorted_iff x f hs]
  simp

theorem approxLoop_stop (f : List Int) (t : Int) (l rp : Nat) (st : ApSt) (h : rp ≤ l) :
    approxLoop f t l rp st = st.best := by
  cases rp with
  | zero => rw [approxLoop]
  | succ rp => rw [approxLoop, if_neg (Nat.not_le_of_gt h)]

theorem approx_loop_stop (fuel : Nat) (f : List Int) (t delta insert md best : Int) (first : Bool) (l rp : Nat)
    (h : rp ≤ l) :
    heuristicApproximationSuggest_loop1 fuel f t delta insert md best first (l : Int) ((rp : Int) - 1) = some [best] := by
  have : ¬ ((l : Int) ≤ (rp : Int) - 1) := by omega
  cases fuel <;> rw [heuristicApproximationSuggest_loop1] <;> exact if_neg (mt of_decide_eq_true this)

theorem approx_loop_tie (f : List Int) (t : Int) (hs : f.Pairwise (· ≤ ·)) :
    ∀ (fuel l rp : Nat) (st : ApSt) (delta insert : Int), rp ≤ fuel + l → rp ≤ f.length →
    heuristicApproximationSuggest_loop1 fuel f t delta insert st.mindelta st.best st.first (l : Int) ((rp : Int) - 1) =
      some [approxLoop f t l rp st] := by
  intro fuel
  induction fuel with
  | zero =>
    intro l rp st delta insert hf _
    rw [Nat.zero_add] at hf
    rw [approxLoop_stop f t l rp st hf]; exact approx_loop_stop _ _ _ _ _ _ _ _ l rp hf
  | succ fuel ih =>
    intro l rp st delta insert hf hrl
    by_cases hc : rp ≤ l
    · rw [approxLoop_stop f t l rp st hc]; exact approx_loop_stop _ _ _ _ _ _ _ _ l rp hc
    · cases rp with
      | zero => exact absurd (Nat.zero_le l) hc
      | succ rp' =>
      have hl : l ≤ rp' := Nat.le_of_lt_succ (Nat.lt_of_not_le hc)
      have hf' : rp' ≤ fuel + l := by omega
      have ih' : ∀ (st' : ApSt) (δ ins : Int), heuristicApproximationSuggest_loop1 fuel f t δ ins st'.mindelta
          st'.best st'.first ((l : Int) + 1) (rp' : Int) = some [approxLoop f t (l + 1) (rp' + 1) st'] :=
        fun st' δ ins => by
          have := ih (l + 1) (rp' + 1) st' δ ins (Nat.succ_le_succ hf') hrl
          rwa [Int.natCast_add_one, Int.natCast_add_one, Int.add_sub_cancel] at this
      rw [approxLoop, if_pos hl, Int.natCast_add_one, Int.add_sub_cancel]
      simp only [heuristicApproximationSuggest_loop1, Int.ofNat_le.2 hl, decide_true, if_true,
        AC.ProgramTie.idx_at' f l (Nat.lt_of_le_of_lt hl hrl), AC.ProgramTie.idx_at' f rp' hrl,
        Option.bind_eq_bind, Option.bind_some, pure, bAdd, bSub, bSet, bSign_lt_zero_iff, bCmp_lt_zero_iff, containsSorted_eq f hs,
        decide_eq_true_eq]
      generalize t - (at' f l + at' f rp') = δ
      by_cases hd : δ < 0
      · rw [if_pos hd, if_pos hd]
        exact ih l rp' st δ insert hf' (Nat.le_of_succ_le hrl)
      · rw [if_neg hd, if_neg hd]
        by_cases hm : f.contains (at' f l + δ) = true
        · rw [if_pos hm, if_pos hm]
        · rw [if_neg hm, if_neg hm]
          by_cases hu : (st.first || decide (δ < st.mindelta)) = true
          · rw [if_pos hu, if_pos hu]; exact ih' ⟨false, δ, at' f l + δ⟩ _ _
          · rw [if_neg hu, if_neg hu]; exact ih' _ _ _

theorem approx_tie (f : List Int) (t : Int) (hs : f.Pairwise (· ≤ ·)) :
    heuristicApproximationSuggest f t = suggestApprox f t := by
  rw [heuristicApproximationSuggest, suggestApprox]
  simp only [bNewInt, len, Int.sub_zero, Int.sub_add_cancel, Int.toNat_natCast]
  exact approx_loop_tie f t hs f.length 0 f.length ⟨true, 0, 0⟩ 0 0 (Nat.le_refl _) (Nat.le_refl _)

theorem lt_two_pow_bitLen (k : Int) (hk : 0 ≤ k) : k < 2 ^ bitLenN k.toNat := by
  obtain ⟨m, rfl⟩ := Int.eq_ofNat_of_zero_le hk
  exact_mod_cast (P.HX.bitLen_spec m).1

theorem div_pow_lt (k : Int) (s m : Nat) (hs : 1 ≤ s) (h : k < 2 ^ (m + 1)) : k / 2 ^ s < 2 ^ m :=
  Int.ediv_lt_of_lt_mul (Int.pow_pos (by decide)) (Int.lt_of_lt_of_le h (by
    rw [← Int.pow_add]; exact two_pow_le_int (Nat.add_le_add_left hs m)))

/-- what the fuel of the `dyadic` and `fermat` loops (`BitLen(n/2) + 1`) and of their models (`BitLen(n)`)
    have in common: both bound `n / 2` -/
theorem half_bounds (n : Int) (hn : 0 ≤ n) :
    0 ≤ n / 2 ∧ Int.toNat (bBitLen (n / 2) + 1) = bitLenN (n / 2).toNat + 1 ∧
      n / 2 < 2 ^ (bitLenN (n / 2).toNat + 1) ∧ n / 2 < 2 ^ bitLenN n.toNat := by
  have hk0 : 0 ≤ n / 2 := Int.ediv_nonneg hn (by decide)
  have h1 := lt_two_pow_bitLen _ hk0
  exact ⟨hk0, by rw [bBitLen_of_nonneg _ hk0, ← Int.natCast_add_one, Int.toNat_natCast],
    Int.lt_of_lt_of_le h1 (two_pow_le_int (Nat.le_succ _)),
    Int.lt_of_le_of_lt (Int.ediv_le_self 2 hn) (lt_two_pow_bitLen n hn)⟩

theorem not_one_lt_of_lt_two_pow_zero {k : Int} (h : k < 2 ^ 0) : ¬ 1 < k :=
  Int.not_lt.2 (Int.le_of_lt (Int.pow_zero 2 ▸ h))

/-- at `k ≤ 1` the loop and the model both stop, whatever fuel each has left -/
theorem dyadic_stop (n : Int) (m m' : Nat) (k : Int) (ks : List Int) (hk : ¬ 1 < k) :
    contfracDyadicStrategyK_loop1 m n ks k 1 = some (ks ++ dyadicK m' k) := by
  have hm : dyadicK m' k = [] := by cases m' <;> simp only [dyadicK, gt_iff_lt, hk, if_false]
  rw [hm, List.append_nil]
  have hc : ¬ decide (bCmp k 1 > 0) = true := fun hc => hk ((bCmp_pos_iff k 1).1 (of_decide_eq_true hc))
  cases m <;> exact if_neg hc

theorem dyadic_loop_tie (n : Int) : ∀ (m m' : Nat) (k : Int) (ks : List Int), 0 ≤ k → k < 2 ^ m → k < 2 ^ m' →
    contfracDyadicStrategyK_loop1 m n ks k 1 = some (ks ++ dyadicK m' k) := by
  intro m
  induction m with
  | zero =>
    intro m' k ks _ h1 _
    exact dyadic_stop n 0 m' k ks (not_one_lt_of_lt_two_pow_zero h1)
  | succ m ih =>
    intro m' k ks h0 h1 h2
    cases m' with
    | zero => exact dyadic_stop n (m + 1) 0 k ks (not_one_lt_of_lt_two_pow_zero h2)
    | succ m' =>
      simp only [contfracDyadicStrategyK_loop1, gt_iff_lt, bCmp_pos_iff, dyadicK, decide_eq_true_eq, AC.Gen.Bigint.clone, bSet,
        bRsh_eq_div, Int.pow_one]
      split
      · rw [ih m' (k / 2) _ (by omega) (Int.pow_one 2 ▸ div_pow_lt k 1 m (Nat.le_refl 1) h1)
          (Int.pow_one 2 ▸ div_pow_lt k 1 m' (Nat.le_refl 1) h2), List.append_assoc]; rfl
      · rw [List.append_nil]; rfl

theorem dyadicK_tie (n : Int) (hn : 0 ≤ n) : contfracDyadicStrategyK n = some (Strategy.K .dyadic n) := by
  obtain ⟨hk0, hfuel, h1, h2⟩ := half_bounds n hn
  simp only [contfracDyadicStrategyK, bRsh_eq_div, Int.pow_one, hfuel, AC.BigintTie.one_eq]
  exact dyadic_loop_tie n _ _ _ [] hk0 h1 h2

theorem fermat_stop (n : Int) (m m' : Nat) (k : Int) (s : Nat) (ks : List Int) (hk : ¬ 1 < k) :
    contfracFermatStrategyK_loop1 m n ks k 1 s = some (ks ++ fermatK m' k s) := by
  have hm : fermatK m' k s = [] := by cases m' <;> simp only [fermatK, gt_iff_lt, hk, if_false]
  rw [hm, List.append_nil]
  have hc : ¬ decide (bCmp k 1 > 0) = true := fun hc => hk ((bCmp_pos_iff k 1).1 (of_decide_eq_true hc))
  cases m <;> exact if_neg hc

theorem fermat_loop_tie (n : Int) : ∀ (m m' : Nat) (k : Int) (s : Nat) (ks : List Int), 0 ≤ k → 1 ≤ s →
    k < 2 ^ m → k < 2 ^ m' → contfracFermatStrategyK_loop1 m n ks k 1 s = some (ks ++ fermatK m' k s) := by
  intro m
  induction m with
  | zero =>
    intro m' k s ks _ _ h1 _
    exact fermat_stop n 0 m' k s ks (not_one_lt_of_lt_two_pow_zero h1)
  | succ m ih =>
    intro m' k s ks h0 hs h1 h2
    cases m' with
    | zero => exact fermat_stop n (m + 1) 0 k s ks (not_one_lt_of_lt_two_pow_zero h2)
    | succ m' =>
      simp only [contfracFermatStrategyK_loop1, gt_iff_lt, bCmp_pos_iff, fermatK, decide_eq_true_eq, AC.Gen.Bigint.clone, bSet,
        bRsh_eq_div, Nat.mul_comm s 2]
      split
      · rw [ih m' (k / 2 ^ s) (2 * s) _ (Int.ediv_nonneg h0 (Int.le_of_lt (Int.pow_pos (by decide)))) (by omega)
          (div_pow_lt k s m hs h1) (div_pow_lt k s m' hs h2), List.append_assoc]; rfl
      · rw [List.append_nil]; rfl

theorem fermatK_tie (n : Int) (hn : 0 ≤ n) : contfracFermatStrategyK n = some (Strategy.K .fermat n) := by
  obtain ⟨hk0, hfuel, h1, h2⟩ := half_bounds n hn
  simp only [contfracFermatStrategyK, bRsh_eq_div, Int.pow_one, hfuel, AC.BigintTie.one_eq]
  exact fermat_loop_tie n _ _ _ 1 [] hk0 (Nat.le_refl 1) h1 h2

theorem totalK_tie (n : Int) : contfracTotalStrategyK n = some (Strategy.K .total n) := by
  simp only [contfracTotalStrategyK, Strategy.K, bNewInt, AC.BigintTie.one_eq]
  by_cases h : n < 2
  · rw [Int.toNat_eq_zero.2 (Int.sub_nonpos_of_le (Int.le_of_lt h)),
      Nat.sub_eq_zero_of_le (Int.toNat_le.2 (Int.le_of_lt h)), contfracTotalStrategyK_loop1]
    exact if_neg (mt (fun hc => (bCmp_lt_zero_iff 2 n).1 (of_decide_eq_true hc)) (Int.not_lt.2 (Int.le_of_lt h)))
  · obtain ⟨m, hm⟩ := Int.eq_ofNat_of_zero_le (Int.sub_nonneg_of_le (Int.not_lt.1 h))
    obtain rfl : n = ((m + 2 : Nat) : Int) := Int.sub_eq_iff_eq_add.1 hm
    rw [show ((m + 2 : Nat) : Int) - 2 = (m : Int) from Int.add_sub_cancel (m : Int) 2, Int.toNat_natCast,
      Int.toNat_natCast, Nat.add_sub_cancel]
    refine (appendLoop (fun fuel j ks => contfracTotalStrategyK_loop1 fuel ((m + 2 : Nat) : Int) ks j 1) Nat.cast
      (m + 2) (fun fuel j ks hj => ?_) m 2 [] (Nat.le_of_eq (Nat.add_comm 2 m))).trans ?_
    · simp only [contfracTotalStrategyK_loop1, bCmp_lt_zero_iff, Int.ofNat_lt.2 hj, decide_true, if_true, AC.Gen.Bigint.clone,
        bSet, bAdd]
    · rw [contfracTotalStrategyK_loop1, Nat.add_comm 2 m,
        if_neg (mt (fun hc => (bCmp_lt_zero_iff _ _).1 (of_decide_eq_true hc)) (Int.lt_irrefl _)), List.nil_append,
        List.range'_eq_map_range, List.map_map]
      exact congrArg some (List.map_congr_left fun i _ => Int.add_comm 2 (i : Int))

end AC.HeurTie
