import AC.GoPrim
import AC.GoAttr
/-! # The Go primitives on in-range arguments

One simp set, `go_simp`, for the steps every tie proof takes after unfolding a translated function:
the `Option` monad, conditions `(b == c) = true` / `decide p = true` read as propositions, the three-way
comparison `bCmp` (and `bSign`, which is `bCmp · 0`) read as an order relation, slices and indices at the
positions `0`, `1`, `len - 1` and at natural-number positions. -/

theorem ite_and {α} (p q : Prop) [Decidable p] [Decidable q] (a b : α) :
    (if p ∧ q then a else b) = if p then (if q then a else b) else b := by
  by_cases hp : p
  · by_cases hq : q
    · rw [if_pos ⟨hp, hq⟩, if_pos hp, if_pos hq]
    · rw [if_neg (fun h => hq h.2), if_pos hp, if_neg hq]
  · rw [if_neg (fun h => hp h.1), if_neg hp]

@[go_simp] theorem Option.ite_none_bind {α β} (p : Prop) [Decidable p] (a : Option α) (g : α → Option β) :
    (if p then a else none).bind g = if p then a.bind g else none := by
  by_cases h : p
  · rw [if_pos h, if_pos h]
  · rw [if_neg h, if_neg h]; rfl

attribute [go_simp] Option.bind_eq_bind Option.bind_some Option.bind_none Option.pure_def
  beq_iff_eq bne_iff_ne decide_eq_true_eq Bool.not_eq_true' Bool.and_eq_true Bool.or_eq_true
  decide_eq_false_iff_not Bool.false_eq_true ge_iff_le gt_iff_lt ite_true ite_false if_true if_false

namespace AC.BigPrim

theorem bCmp_cases (a b : Int) :
    (a < b ∧ bCmp a b = -1) ∨ (a = b ∧ bCmp a b = 0) ∨ (b < a ∧ bCmp a b = 1) := by
  unfold bCmp
  by_cases h1 : a < b
  · rw [if_pos h1]; exact Or.inl ⟨h1, rfl⟩
  · rw [if_neg h1]
    by_cases h2 : a = b
    · rw [if_pos h2]; exact Or.inr (Or.inl ⟨h2, rfl⟩)
    · rw [if_neg h2]; exact Or.inr (Or.inr ⟨by omega, rfl⟩)

@[go_simp] theorem bCmp_eq_zero_iff (a b : Int) : bCmp a b = 0 ↔ a = b := by
  have := bCmp_cases a b; omega
theorem bCmp_beq_zero (a b : Int) : (bCmp a b == 0) = decide (a = b) := by
  rw [Bool.eq_iff_iff, beq_iff_eq, decide_eq_true_eq]; exact bCmp_eq_zero_iff a b
@[go_simp] theorem bCmp_lt_zero_iff (a b : Int) : bCmp a b < 0 ↔ a < b := by
  have := bCmp_cases a b; omega
@[go_simp] theorem bCmp_pos_iff (a b : Int) : 0 < bCmp a b ↔ b < a := by
  have := bCmp_cases a b; omega
@[go_simp] theorem bCmp_le_zero_iff (a b : Int) : bCmp a b ≤ 0 ↔ a ≤ b := by
  rw [← Int.not_lt, bCmp_pos_iff, Int.not_lt]
@[go_simp] theorem bCmp_nonneg_iff (a b : Int) : 0 ≤ bCmp a b ↔ b ≤ a := by
  rw [← Int.not_lt, bCmp_lt_zero_iff, Int.not_lt]
@[go_simp] theorem bCmp_eq_neg_one_iff (a b : Int) : bCmp a b = -1 ↔ a < b := by
  have := bCmp_cases a b; omega
@[go_simp] theorem bCmp_eq_one_iff (a b : Int) : bCmp a b = 1 ↔ b < a := by
  have := bCmp_cases a b; omega

theorem bSign_eq_bCmp (d : Int) : bSign d = bCmp d 0 := rfl
@[go_simp] theorem bSign_lt_zero_iff (d : Int) : bSign d < 0 ↔ d < 0 :=
  bSign_eq_bCmp d ▸ bCmp_lt_zero_iff d 0
@[go_simp] theorem bSign_le_zero_iff (d : Int) : bSign d ≤ 0 ↔ d ≤ 0 :=
  bSign_eq_bCmp d ▸ bCmp_le_zero_iff d 0

attribute [go_simp] bNewInt bSet bAdd bSub

theorem bLsh_one (x : Int) : bLsh x 1 = 2 * x := by
  rw [bLsh, Int.pow_one, Int.mul_comm]

theorem bLsh_natCast_one (m : Nat) : bLsh (m : Int) 1 = ((2 * m : Nat) : Int) := bLsh_one m

theorem bRsh_eq_div (x : Int) (n : Nat) : bRsh x n = x / 2 ^ n := Int.shiftRight_eq_div_pow x n

theorem bRsh_one (m : Nat) : bRsh (m : Int) 1 = ((m / 2 : Nat) : Int) := by
  rw [bRsh_eq_div, Int.pow_one]; rfl

theorem bBitLen_natCast (x : Nat) : bBitLen (x : Int) = ((P.HX.bitLen x : Nat) : Int) := rfl

theorem bBitLen_pos (x : Nat) (h : x ≠ 0) : bBitLen (x : Int) = ((Nat.log2 x + 1 : Nat) : Int) := by
  rw [bBitLen_natCast, P.HX.bitLen, if_neg h]

end AC.BigPrim

namespace AC.GoPrim

attribute [go_simp] goNil goErr makeBigs

theorem natCast_not_neg (n : Nat) : ¬ ((n : Int) < 0) := Int.not_lt.2 (Int.natCast_nonneg n)

@[go_simp] theorem len_cons_eq_zero {α} (x : α) (xs : List α) : (len (x :: xs) = 0) = False := by
  simp only [len, List.length_cons, eq_iff_iff, iff_false]; omega

theorem len_cons_pos {α} (x : α) (xs : List α) : (0 < len (x :: xs)) = True := by
  simp only [len, List.length_cons, eq_iff_iff, iff_true]; omega

theorem toNat_len_sub {α} (l : List α) (k : Nat) : (len l - (k : Int)).toNat = l.length - k := Int.toNat_sub _ _

@[go_simp] theorem toNat_len_cons_sub_one {α} (x : α) (xs : List α) :
    (len (x :: xs) - 1).toNat = xs.length := toNat_len_sub (x :: xs) 1

theorem idx_natCast {α} (l : List α) (i : Nat) : idx l (i : Int) = l[i]? := if_neg (natCast_not_neg i)

@[go_simp] theorem idx_cons_zero {α} (x : α) (xs : List α) : idx (x :: xs) 0 = some x := rfl

theorem idx_len_sub_one {α} : ∀ l : List α, idx l (len l - 1) = l.getLast?
  | [] => rfl
  | a :: l => by
    rw [len, List.length_cons, Int.natCast_add_one, Int.add_sub_cancel, idx_natCast, List.getLast?_eq_getElem?]
    rfl

theorem idx_map_natCast {α β} (f : α → β) (l : List α) (d : α) (i : Nat) (h : i < l.length) :
    idx (l.map f) (i : Int) = some (f (l.getD i d)) := by
  rw [idx_natCast, List.getElem?_map, List.getD_eq_getElem?_getD, List.getElem?_eq_getElem h]; rfl

theorem setIdx_natCast {α} (l : List α) (i : Nat) (v : α) :
    setIdx l (i : Int) v = if i < l.length then some (l.set i v) else none := if_neg (natCast_not_neg i)

theorem setIdx_map_natCast {α β} (f : α → β) (l : List α) (i : Nat) (v : α) (h : i < l.length) :
    setIdx (l.map f) (i : Int) (f v) = some ((l.set i v).map f) := by
  rw [setIdx_natCast, if_pos (by rwa [List.length_map]), List.map_set]

theorem sliceTo_natCast {α} (l : List α) (k : Nat) (h : k ≤ l.length) :
    sliceTo l (k : Int) = some (l.take k) := (if_neg (natCast_not_neg k)).trans (if_pos h)

@[go_simp] theorem sliceFrom_cons_one {α} (x : α) (xs : List α) : sliceFrom (x :: xs) 1 = some xs := rfl

theorem makeInts_natCast (n : Nat) : makeInts (n : Int) = some (List.replicate n 0) := if_neg (natCast_not_neg n)

theorem makeOpLists_natCast (n : Nat) : makeOpLists (n : Int) = some (List.replicate n []) :=
  if_neg (natCast_not_neg n)

@[go_simp] theorem goUint_natCast (n : Nat) : goUint (n : Int) = some n := if_neg (natCast_not_neg n)

theorem bBit_natCast (x i : Nat) : bBit (x : Int) (i : Int) = some (if x.testBit i then 1 else 0) :=
  if_neg (natCast_not_neg i)

@[go_simp] theorem bOr_natCast (a b : Nat) : bOr (a : Int) (b : Int) = ((a ||| b : Nat) : Int) := rfl

@[go_simp] theorem bSetBit_natCast_one (x i : Nat) :
    bSetBit (x : Int) (i : Int) 1 = some ((x ||| 2 ^ i : Nat) : Int) :=
  (if_neg (natCast_not_neg i)).trans (if_neg (by decide))

end AC.GoPrim
