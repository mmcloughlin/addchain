import AC.SemXSim
/-! C03: what makes `denote` readable as the property text (one addition step, `s` doublings in
closed form, chains only grow, names), and the source of a `shl` by 0 in translator output, which is
what the output-index cross-check can fire on (`Sim.error`). -/
namespace P.SemX

/-- an index that has been computed in state `st` -/
def St.has (st : St) (a : Int) : Prop := 0 ≤ a ∧ a < st.chain.length

theorem step_ok (st : St) (a b : Int) (ha : st.has a) (hb : st.has b) :
    step st a b =
      some ((⟨st.chain ++ [st.val a + st.val b],
              st.ops ++ [((min a b).toNat, (max a b).toNat)]⟩ : St),
            (st.chain.length : Int)) := by
  unfold step
  rw [if_pos ⟨ha.1, ha.2, hb.1, hb.2⟩]

theorem step_none (st : St) (a b : Int) (h : ¬ st.has a ∨ ¬ st.has b) : step st a b = none := by
  unfold step
  rw [if_neg]
  intro hc
  rcases h with h | h
  · exact h ⟨hc.1, hc.2.1⟩
  · exact h ⟨hc.2.2.1, hc.2.2.2⟩

theorem step_chain {st st' : St} {a b k : Int} (h : step st a b = some (st', k)) :
    st'.chain = st.chain ++ [st.val a + st.val b] ∧ k = st.chain.length ∧ st.has a ∧ st.has b := by
  unfold step at h
  split at h
  · next hc =>
    cases h
    exact ⟨rfl, rfl, ⟨hc.1, hc.2.1⟩, ⟨hc.2.2.1, hc.2.2.2⟩⟩
  · cases h

theorem val_append_last (c : List Nat) (ops : Prog) (v : Nat) :
    (St.mk (c ++ [v]) ops).val (c.length : Int) = v := by
  simp [St.val]

theorem val_append_old (c : List Nat) (ops ops' : Prog) (v : Nat) (a : Int)
    (h : (St.mk c ops).has a) : (St.mk (c ++ [v]) ops').val a = (St.mk c ops).val a := by
  obtain ⟨h1, h2⟩ := h
  simp only [St.val]
  have : a.toNat < c.length := by simp at h2; omega
  rw [List.getD_eq_getElem?_getD, List.getD_eq_getElem?_getD, List.getElem?_append_left this]

theorem pow_list (v s : Nat) :
    [v + v] ++ (List.range s).map (fun k => 2 ^ (k+1) * (v + v))
      = (List.range (s+1)).map (fun k => 2 ^ (k+1) * v) := by
  rw [List.range_succ_eq_map, List.map_cons, List.map_map, List.singleton_append]
  congr 1
  · exact (Nat.two_mul v).symm
  · exact List.map_congr_left fun k _ => by
      show 2 ^ (k+1) * (v + v) = 2 ^ (k+1+1) * v
      rw [Nat.pow_succ 2 (k+1), Nat.mul_assoc, Nat.two_mul]

theorem doubles_spec {s : Nat} (hs : 1 ≤ s) (st : St) (a : Int) (ha : st.has a) :
    ∃ ops', doubles s st a =
      some ((⟨st.chain ++ (List.range s).map (fun k => 2 ^ (k+1) * st.val a), ops'⟩ : St),
            (st.chain.length : Int) + s - 1) := by
  induction hs generalizing st a with
  | refl =>
    refine ⟨st.ops ++ [((min a a).toNat, (max a a).toNat)], ?_⟩
    rw [doubles, step_ok st a a ha ha]
    show some (_, _) =
      some (St.mk (st.chain ++ [2 ^ (0 + 1) * st.val a]) _, (st.chain.length : Int) + (1 : Nat) - 1)
    rw [Nat.two_mul, Int.natCast_one, Int.add_sub_cancel]
  | @step s _ ih =>
    rw [doubles, step_ok st a a ha ha]
    -- the element just appended, at index `st.chain.length`, is doubled `s` more times
    obtain ⟨ops', h⟩ := ih
      ⟨st.chain ++ [st.val a + st.val a], st.ops ++ [((min a a).toNat, (max a a).toNat)]⟩
      st.chain.length ⟨Int.natCast_nonneg _, by
        show (st.chain.length : Int) < ((st.chain ++ [_]).length : Nat)
        rw [List.length_append]; exact Int.ofNat_lt.2 (Nat.lt_succ_self _)⟩
    refine ⟨ops', ?_⟩
    simp only [h, val_append_last, List.append_assoc, pow_list, List.length_append,
      List.length_singleton]
    rw [Int.natCast_succ, Int.natCast_succ, Int.add_right_comm, Int.add_assoc]

theorem doubles_none {s : Nat} (hs : 1 ≤ s) (st : St) (a : Int) (h : ¬ st.has a) :
    doubles s st a = none := by
  obtain ⟨s, rfl⟩ := Nat.exists_eq_add_of_le' hs
  rw [doubles, step_none st a a (Or.inl h)]

theorem step_prefix {st st' : St} {a b k : Int} (h : step st a b = some (st', k)) :
    st.chain <+: st'.chain :=
  (step_chain h).1 ▸ List.prefix_append _ _

theorem doubles_prefix {s : Nat} {st st' : St} {a k : Int} (h : doubles s st a = some (st', k)) :
    st.chain <+: st'.chain := by
  fun_induction doubles s st a with
  | case1 => cases h; exact List.prefix_refl _
  | case2 => cases h
  | case3 s st a st1 a1 hs ih => exact (step_prefix hs).trans (ih h)

theorem dExpr_prefix {env : Env} {e : Expr} {st st' : St} {x : Int}
    (h : dExpr st env e = some (st', x)) : st.chain <+: st'.chain := by
  fun_induction dExpr st env e generalizing st' x with
  | case1 => cases h; exact List.prefix_refl _
  | case2 st s =>
    cases hl : lookup env s with
    | none => rw [hl] at h; cases h
    | some i => rw [hl] at h; cases h; exact List.prefix_refl _
  | case3 | case4 | case6 | case8 | case10 => cases h
  | case5 st x y st1 a hx st2 b hy ihx ihy => exact (ihx hx).trans ((ihy hy).trans (step_prefix h))
  | case7 st x st1 a hx ihx => exact (ihx hx).trans (step_prefix h)
  | case9 st x st1 hx ihx => cases h; exact ihx hx
  | case11 st x s st1 a hx hs ihx => exact (ihx hx).trans (doubles_prefix h)

theorem dStmts_prefix {env : Env} {ss : List Stmt} {st st' : St}
    (h : dStmts st env ss = some st') : st.chain <+: st'.chain := by
  fun_induction dStmts st env ss with
  | case1 => cases h; exact List.prefix_refl _
  | case2 | case3 => cases h
  | case4 st env s r st1 x he hl ih => exact (dExpr_prefix he).trans (ih h)

theorem lookup_cons_self (env : Env) (s : String) (x : Int) : lookup ((s, x) :: env) s = some x := by
  simp [lookup, List.find?]

theorem lookup_cons_ne (env : Env) (s s' : String) (x : Int) (h : s ≠ s') :
    lookup ((s, x) :: env) s' = lookup env s' := by
  have : (s == s') = false := by simp [h]
  simp [lookup, List.find?, this]

def hasShift0 : Expr → Bool
  | .operand _ => false
  | .ident _ => false
  | .add x y => hasShift0 x || hasShift0 y
  | .shift x s => s == 0 || hasShift0 x
  | .double x => hasShift0 x

/-- the translator emits a `shl` by 0 only for a shift by 0 -/
theorem tExpr_shl0 {env : Env} {n : Int} {e : Expr} {r : List Inst × Int × Int} {i : Inst} {a : Int}
    (h : tExpr env n e = .ok r) (hi : i ∈ r.1) (ha : i.op = .shl a 0) : hasShift0 e = true := by
  fun_induction tExpr env n e generalizing r with cases h
  | case1 | case3 => cases hi
  | case6 n x y d1 n1 a1 hx d2 n2 b hy ihx ihy =>
    rw [hasShift0]
    rcases List.mem_append.1 hi with hi | hi
    · rcases List.mem_append.1 hi with hi | hi
      · rw [ihx hx hi]; rfl
      · rw [ihy hy hi, Bool.or_true]
    · cases List.mem_singleton.1 hi
      split at ha <;> cases ha
  | case8 n x d1 n1 a1 hx ihx =>
    rcases List.mem_append.1 hi with hi | hi
    · exact ihx hx hi
    · cases List.mem_singleton.1 hi
      cases ha
  | case10 n x s d1 n1 a1 hx n2 =>
    rename_i ihx
    rw [hasShift0]
    rcases List.mem_append.1 hi with hi | hi
    · rw [ihx hx hi, Bool.or_true]
    · cases List.mem_singleton.1 hi
      cases ha
      rfl

theorem tStmts_shl0 {env : Env} {n : Int} {ss : List Stmt} {ir : List Inst} {i : Inst} {a : Int}
    (h : tStmts env n ss = .ok ir) (hi : i ∈ ir) (ha : i.op = .shl a 0) :
    (ss.any fun s => hasShift0 s.e) = true := by
  fun_induction tStmts env n ss generalizing ir with cases h
  | case1 => cases hi
  | case5 env n st r Δ n' x ht hl ir' hr ih =>
    rw [List.any_cons]
    rcases List.mem_append.1 hi with hi | hi
    · rw [tExpr_shl0 ht hi ha]; rfl
    · rw [ih hr hi, Bool.or_true]

end P.SemX
