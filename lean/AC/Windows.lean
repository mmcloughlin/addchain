import AC.Sliding
/-! C09 prototype: FixedWindow and RunLength decompositions. -/
namespace P.Bits

/-- `FixedWindow.Decompose`: windows of `K` bits from the top; `h` bits remain -/
def fixedW (x K : Nat) : Nat → Nat → List Term
  | 0, _ => []
  | _, 0 => []
  | fuel+1, h+1 =>
    let l := h + 1 - K
    let d := x / 2 ^ l % 2 ^ (h + 1 - l)
    if d ≠ 0 then ⟨d, l⟩ :: fixedW x K fuel l else fixedW x K fuel l

theorem fixedW_scan (x K : Nat) (hK : 1 ≤ K) : ∀ (fuel h : Nat), h ≤ fuel →
    Scan (fun t => 0 < t.d ∧ t.d < 2 ^ K) x h (fixedW x K fuel h) := by
  intro fuel
  induction fuel with
  | zero =>
    intro h hh
    obtain rfl := Nat.le_zero.1 hh
    exact Scan.nil
  | succ f ih =>
    intro h hh
    cases h with
    | zero => exact Scan.nil
    | succ h =>
      unfold fixedW
      dsimp only
      have hl : h + 1 - K ≤ h := Nat.sub_le_of_le_add (Nat.add_le_add_left hK h)
      have hw : h + 1 - K + (h + 1 - (h + 1 - K)) = h + 1 := Nat.add_sub_cancel' (Nat.sub_le _ _)
      have s := ih (h + 1 - K) (Nat.le_trans hl (Nat.le_of_succ_le_succ hh))
      split
      · next hd =>
        refine s.cons hw rfl ⟨Nat.pos_of_ne_zero hd, ?_⟩
        exact Nat.lt_of_lt_of_le (Nat.mod_lt _ (Nat.two_pow_pos _)) (Nat.pow_le_pow_right Nat.two_pos (Nat.sub_le_iff_le_add'.2 (Nat.le_add_of_sub_le (Nat.le_refl _))))
      · next hd => exact s.skip hw (Decidable.not_not.1 hd)

theorem fixedW_spec (x K : Nat) (hK : 1 ≤ K) : ∀ (fuel h : Nat), h ≤ fuel →
    value (fixedW x K fuel h) = x % 2 ^ h ∧
    (∀ t ∈ fixedW x K fuel h, 0 < t.d ∧ t.d < 2 ^ K ∧ t.d * 2 ^ t.e < 2 ^ h) ∧
    (fixedW x K fuel h).Pairwise (fun a b => b.d * 2 ^ b.e < 2 ^ a.e) := by
  intro fuel h hh
  have s := fixedW_scan x K hK fuel h hh
  exact ⟨s.sum, fun t ht => ⟨(s.shape t ht).1.1, (s.shape t ht).1.2, (s.shape t ht).2⟩, s.desc⟩

/-- number of consecutive set bits directly below position `ip`, going down; when `T > 0` the count
    stops once `len`, the number of bits already taken, reaches `T` -/
def runDown (x T : Nat) : Nat → Nat → Nat
  | 0, _ => 0
  | ip+1, len => if x.testBit ip && (T == 0 || len < T) then 1 + runDown x T ip (len + 1) else 0

/-- `RunLength.Decompose`; `ip` = number of low positions still to scan -/
def runLen (x T : Nat) : Nat → Nat → List Term
  | 0, _ => []
  | _, 0 => []
  | fuel+1, ip+1 =>
    if x.testBit ip then
      let n := runDown x T (ip + 1) 0
      ⟨2 ^ n - 1, ip + 1 - n⟩ :: runLen x T fuel (ip + 1 - n)
    else runLen x T fuel ip

theorem runDown_spec (x T : Nat) : ∀ (ip len : Nat),
    runDown x T ip len ≤ ip ∧ (∀ j, j < runDown x T ip len → x.testBit (ip - 1 - j) = true) ∧
    (0 < T → len + runDown x T ip len ≤ max T len) := by
  intro ip
  induction ip with
  | zero => intro len; exact ⟨Nat.le_refl _, nofun, fun _ => Nat.le_max_right _ _⟩
  | succ ip ih =>
    intro len
    unfold runDown
    split
    · next hc =>
      simp only [Bool.and_eq_true, Bool.or_eq_true, beq_iff_eq, decide_eq_true_eq] at hc
      obtain ⟨i1, i2, i3⟩ := ih (len + 1)
      refine ⟨Nat.add_comm _ 1 ▸ Nat.succ_le_succ i1, fun j hj => ?_, fun hT => ?_⟩
      · cases j with
        | zero => exact hc.1
        | succ j =>
          rw [show ip + 1 - 1 - (j + 1) = ip - 1 - j from Nat.sub_right_comm ip j 1]
          exact i2 j (Nat.lt_of_succ_lt_succ (Nat.lt_of_lt_of_eq hj (Nat.add_comm 1 _)))
      · have hlt : len < T := hc.2.resolve_left (Nat.ne_of_gt hT)
        have := i3 hT
        rw [Nat.max_eq_left hlt, Nat.add_assoc] at this
        rw [Nat.max_eq_left (Nat.le_of_lt hlt)]
        exact this
    · exact ⟨Nat.zero_le _, nofun, fun _ => Nat.le_max_right _ _⟩

theorem mod_all_ones (y n : Nat) (h : ∀ j, j < n → y.testBit j = true) : y % 2 ^ n = 2 ^ n - 1 := by
  apply Nat.eq_of_testBit_eq
  intro i
  rw [Nat.testBit_mod_two_pow, Nat.testBit_two_pow_sub_one]
  by_cases hi : i < n
  · simp [hi, h i hi]
  · simp [hi]

/-- the run found from a set bit `ip` down, in the form `Scan.cons` takes it: `n = runDown x T (ip + 1) 0` bits
    starting at `ip + 1 - n`, all ones -/
theorem runDown_window (x T ip : Nat) (hb : x.testBit ip = true) :
    1 ≤ runDown x T (ip + 1) 0 ∧ (0 < T → runDown x T (ip + 1) 0 ≤ T) ∧
    ip + 1 - runDown x T (ip + 1) 0 ≤ ip ∧ ip + 1 - runDown x T (ip + 1) 0 + runDown x T (ip + 1) 0 = ip + 1 ∧
    x / 2 ^ (ip + 1 - runDown x T (ip + 1) 0) % 2 ^ runDown x T (ip + 1) 0 = 2 ^ runDown x T (ip + 1) 0 - 1 := by
  obtain ⟨r1, r2, r3⟩ := runDown_spec x T (ip + 1) 0
  have hn1 : 1 ≤ runDown x T (ip + 1) 0 := by
    have hc : (x.testBit ip && (T == 0 || decide (0 < T))) = true := by
      rw [hb, Bool.true_and]; cases T <;> rfl
    rw [runDown, if_pos hc]; exact Nat.le_add_right 1 _
  have hln := Nat.sub_add_cancel r1
  generalize runDown x T (ip + 1) 0 = n at *
  generalize ip + 1 - n = l at hln ⊢
  refine ⟨hn1, fun hT => by have := r3 hT; rwa [Nat.zero_add, Nat.max_eq_left (Nat.zero_le T)] at this,
    Nat.le_of_lt_succ (Nat.lt_of_lt_of_eq (Nat.lt_add_of_pos_right hn1) hln), hln, mod_all_ones _ _ fun j hj => ?_⟩
  -- bit `j + l` of `x` is the one `runDown_spec` counts as number `ip - (j + l)` from the top
  have hi : j + l ≤ ip :=
    Nat.le_of_lt_succ (Nat.lt_of_lt_of_eq (Nat.add_lt_add_right hj l) ((Nat.add_comm n l).trans hln))
  rw [Nat.testBit_div_two_pow, ← Nat.sub_sub_self hi]
  refine r2 (ip - (j + l)) ((Nat.sub_lt_iff_lt_add hi).2 ?_)
  rw [Nat.add_left_comm, Nat.add_comm n l, hln]
  exact Nat.lt_add_left j (Nat.lt_succ_self ip)

/-- an all-ones run of positive length, at most `T` long when `T > 0` -/
def Run (T : Nat) (t : Term) : Prop := ∃ n, 1 ≤ n ∧ t.d = 2 ^ n - 1 ∧ (0 < T → n ≤ T)

theorem runLen_scan (x T : Nat) : ∀ (fuel ip : Nat), ip ≤ fuel → Scan (Run T) x ip (runLen x T fuel ip) := by
  intro fuel
  induction fuel with
  | zero =>
    intro ip h
    obtain rfl := Nat.le_zero.1 h
    exact Scan.nil
  | succ f ih =>
    intro ip h
    cases ip with
    | zero => exact Scan.nil
    | succ ip =>
      unfold runLen
      split
      · next hb =>
        dsimp only
        obtain ⟨hn1, hT, hl, hln, hones⟩ := runDown_window x T ip hb
        exact (ih _ (Nat.le_trans hl (Nat.le_of_succ_le_succ h))).cons hln hones ⟨_, hn1, rfl, hT⟩
      · next hb => exact (ih ip (Nat.le_of_succ_le_succ h)).skip_bit (by simpa using hb)

/-- **C09 for run lengths**: exact sum, every term an all-ones run of positive length (at most
    `T` when `T > 0`), non-overlapping with strictly decreasing exponents along the scan -/
theorem runLen_spec (x T : Nat) : ∀ (fuel ip : Nat), ip ≤ fuel →
    value (runLen x T fuel ip) = x % 2 ^ ip ∧
    (∀ t ∈ runLen x T fuel ip, ∃ n, 1 ≤ n ∧ t.d = 2 ^ n - 1 ∧ (0 < T → n ≤ T) ∧ t.d * 2 ^ t.e < 2 ^ ip) ∧
    (runLen x T fuel ip).Pairwise (fun a b => b.d * 2 ^ b.e < 2 ^ a.e) := by
  intro fuel ip h
  have s := runLen_scan x T fuel ip h
  refine ⟨s.sum, fun t ht => ?_, s.desc⟩
  obtain ⟨⟨n, h1, h2, h3⟩, h4⟩ := s.shape t ht
  exact ⟨n, h1, h2, h3, h4⟩

end P.Bits
