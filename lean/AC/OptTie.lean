import AC.ChainTie
import AC.OptProof
import AC.GoLoops
/-! # The translated `opt.Optimize` equals the index-based model `P.OptX.optimize` (C10 translator tie)

`optOptimize` of `AC/Gen/ProgramFns.lean` is regenerated from alg/opt/opt.go on every run. The proof follows
the Go function loop by loop: the operation table (`loop1`, through `ops_tie`), the initial counters
(`loop2`/`loop3`), the candidate loop with its pruning sweep (`loop4`/`loop5`/`loop6`), the final removal
(`loop7`). Each counting loop is an instance of `countLoop`: what is proved per loop is its single round.
That makes the translated function the sequential computation `seqOptimize` on the model's data
(`optOptimize_seq`); `seqOptimize_eq` then shows that position by position it is the model. -/
namespace AC.OptTie
open AC.Gen.Program AC.GoPrim AC.BigPrim AC.ProgramTie P P.OptX

theorem foldl_congr_mem {α β} (f g : β → α → β) : ∀ (l : List α) (b : β), (∀ b a, a ∈ l → f b a = g b a) →
    l.foldl f b = l.foldl g b := by
  intro l
  induction l with
  | nil => intro b _; rfl
  | cons a l ih =>
    intro b h
    rw [List.foldl_cons, List.foldl_cons, h b a (by simp)]
    exact ih _ (fun b' a' ha' => h b' a' (by simp [ha']))

theorem filterMap_congr_mem {α β} (f g : α → Option β) : ∀ (l : List α), (∀ a ∈ l, f a = g a) →
    l.filterMap f = l.filterMap g := by
  intro l
  induction l with
  | nil => intro _; rfl
  | cons a l ih =>
    intro h
    rw [List.filterMap_cons, List.filterMap_cons, h a (by simp), ih (fun b hb => h b (by simp [hb]))]

theorem pruneuses_loop_tie (i : Int) (ops0 : List GOp) : ∀ (ops acc : List GOp),
    optpruneuses_loop1 ops ops0 i acc = some (acc ++ ops.filter (fun o => !(o.I == i || o.J == i))) := by
  intro ops
  induction ops with
  | nil => intro acc; simp [optpruneuses_loop1]
  | cons o ops ih =>
    intro acc
    -- one round appends `o` unless it uses `i`; so does one step of the filter
    have round : optpruneuses_loop1 (o :: ops) ops0 i acc =
        optpruneuses_loop1 ops ops0 i (if o.I == i || o.J == i then acc else acc ++ [o]) := by
      simp only [optpruneuses_loop1, opUses, pure, bind, Option.bind]
      cases (o.I == i || o.J == i) <;> rfl
    rw [round, ih, List.filter_cons]
    cases (o.I == i || o.J == i)
    · exact congrArg some (List.append_assoc acc [o] _)
    · rfl

theorem pruneuses_tie (ops : List GOp) (i : Int) :
    optpruneuses ops i = some (ops.filter (fun o => !(o.I == i || o.J == i))) := by
  simp [optpruneuses, sliceTo, pruneuses_loop_tie]

theorem toGs_pruneUses (L : List Op) (k : Nat) :
    (toGs L).filter (fun o => !(o.I == (k : Int) || o.J == (k : Int))) = toGs (pruneUses L k) := by
  simp [toGs, pruneUses, List.filter_map, Function.comp_def, toG, uses]

def opsG (T : List (List Op)) : List (List GOp) := T.map toGs

@[simp] theorem opsG_length (T : List (List Op)) : (opsG T).length = T.length := by simp [opsG]

theorem idx_opsG (T : List (List Op)) (k : Nat) (hk : k < T.length) :
    idx (opsG T) (k : Int) = some (toGs (T.getD k [])) := idx_map_natCast toGs T [] k hk

theorem setIdx_opsG (T : List (List Op)) (k : Nat) (v : List Op) (hk : k < T.length) :
    setIdx (opsG T) (k : Int) (toGs v) = some (opsG (T.set k v)) := setIdx_map_natCast toGs T k v hk

theorem incr_eq_set : ∀ (cs : List Nat) (i : Nat), incr cs i = cs.set i (cs.getD i 0 + 1)
  | [], _ => rfl
  | _ :: _, 0 => rfl
  | c :: r, i + 1 => congrArg (c :: ·) (incr_eq_set r i)

theorem bump_step (cs : List Nat) (x : Nat) (hx : x < cs.length) :
    ((idx (ints cs) (x : Int)).bind fun v => setIdx (ints cs) (x : Int) (v + 1)) = some (ints (incr cs x)) := by
  rw [ints, idx_map_natCast _ _ 0 _ hx, incr_eq_set]
  exact setIdx_map_natCast Int.ofNat cs x (cs.getD x 0 + 1) hx

theorem loop6_eq_loop3 : ∀ (xs c : List Int) (ops : List (List GOp)) (counts rm : List Int) (k l : Int),
    optOptimize_loop6 xs c ops counts rm k l = optOptimize_loop3 xs c ops counts k := by
  intro xs
  induction xs with
  | nil => intros; rfl
  | cons i xs ih => intros; simp only [optOptimize_loop6, optOptimize_loop3, ih]

theorem bump3_tie : ∀ (xs : List Nat) (cs : List Nat) (c : List Int) (ops : List (List GOp)) (k : Int),
    (∀ x ∈ xs, x < cs.length) →
    optOptimize_loop3 (ints xs) c ops (ints cs) k = some (ints (xs.foldl incr cs)) := by
  intro xs
  induction xs with
  | nil => intro cs c ops k _; rfl
  | cons x xs ih =>
    intro cs c ops k hx
    show ((idx (ints cs) (x : Int)).bind fun v => (setIdx (ints cs) (x : Int) (v + 1)).bind fun r2 =>
      optOptimize_loop3 (ints xs) c ops r2 k) = _
    rw [← Option.bind_assoc, bump_step cs x (hx x (by simp))]
    exact ih (incr cs x) c ops k (fun y hy => by rw [(incr_grows cs x).1]; exact hx y (by simp [hy]))

def fillOps (c : Chain) (T : List (List Op)) (k n : Nat) : List (List Op) :=
  (List.range' k n).foldl (fun T j => T.set j (ops c j)) T

theorem fillOps_length (c : Chain) (n k : Nat) (T : List (List Op)) : (fillOps c T k n).length = T.length :=
  length_foldl_set (fun _ j => ops c j) T k n

theorem loop1_tie (c : Chain) : ∀ (n k : Nat) (T : List (List Op)), k + n = c.length → T.length = c.length →
    optOptimize_loop1 n (k : Int) c (opsG T) =
      optOptimize_loop1 0 ((k + n : Nat) : Int) c (opsG (fillOps c T k n)) := by
  intro n k T hk hT
  refine countLoop (fun n k T => optOptimize_loop1 n k c (opsG T)) (fun T j => T.set j (ops c j))
    (fun T => T.length = c.length) c.length (fun k T h => by simpa using h) ?_ n k T hT (by omega)
  intro n k T hT hk
  simp only [optOptimize_loop1, AC.ChainTie.ops_tie c k hk, setIdx_opsG T k _ (hT ▸ hk), Option.bind_eq_bind,
    Option.bind_some]

/-- every operand mentioned in the table is a position of the chain -/
def Scoped (N : Nat) (T : List (List Op)) : Prop := ∀ l, ∀ o ∈ T.getD l [], o.1 < N ∧ o.2 < N

/-- `P.PX` (which `opOperands_tie` speaks of) and `P.OptX` each have an `operands`, with the same body -/
theorem operands_eq (o : Op) : PX.operands o = OptX.operands o := rfl

theorem operands_lt (N : Nat) (o : Op) (h : o.1 < N ∧ o.2 < N) : ∀ x ∈ OptX.operands o, x < N := by
  intro x hx
  rcases Bool.or_eq_true_iff.1 ((OptX.mem_operands o x).1 hx) with e | e
  · exact beq_iff_eq.1 e ▸ h.1
  · exact beq_iff_eq.1 e ▸ h.2

/-- `if len(ops) == 1 { for _, i := range ops[0].Operands() { counts[i]++ } }`, as both the counter
    initialisation and the sweep have it -/
theorem single_tie {ρ} (L : List Op) (cs : List Nat) (hs : ∀ o ∈ L, o.1 < cs.length ∧ o.2 < cs.length)
    (c : List Int) (ops : List (List GOp)) (k : Int) (K : List Int → Option ρ) :
    (if (len (toGs L) == 1) = true then
        (idx (toGs L) 0).bind fun o => (opOperands o).bind fun xs => (optOptimize_loop3 xs c ops (ints cs) k).bind K
      else K (ints cs)) = K (ints (bumpSingle cs L)) := by
  match L with
  | [] => rfl
  | [o] =>
    rw [if_pos (by rfl)]
    show ((opOperands (toG o)).bind fun xs => (optOptimize_loop3 xs c ops (ints cs) k).bind K) = _
    rw [opOperands_tie, operands_eq, Option.bind_some,
      bump3_tie _ _ _ _ _ (operands_lt _ o (hs o (by simp)))]
    rfl
  | _ :: _ :: r =>
    exact if_neg (by simp [len]; omega)

def countsFrom (T : List (List Op)) (cs : List Nat) (k n : Nat) : List Nat :=
  (List.range' k n).foldl (fun cs j => bumpSingle cs (T.getD j [])) cs

theorem countsFrom_length (T : List (List Op)) (n k : Nat) (cs : List Nat) : (countsFrom T cs k n).length = cs.length :=
  foldl_range'_inv _ (fun _ cs' => cs'.length = cs.length) (k + n)
    (fun _ _ _ h => (bumpSingle_grows _ _).1.trans h) n k cs (Nat.le_refl _) rfl

theorem loop2_tie (c : List Int) (T : List (List Op)) : ∀ (n k : Nat) (cs : List Nat),
    k + n ≤ T.length → Scoped cs.length T →
    optOptimize_loop2 n (k : Int) c (opsG T) (ints cs) =
      optOptimize_loop2 0 ((k + n : Nat) : Int) c (opsG T) (ints (countsFrom T cs k n)) := by
  intro n k cs hk hs
  refine countLoop (fun n k cs => optOptimize_loop2 n k c (opsG T) (ints cs)) (fun cs j => bumpSingle cs (T.getD j []))
    (fun cs' => cs'.length = cs.length) T.length (fun _ _ h => (bumpSingle_grows _ _).1.trans h) ?_ n k cs rfl hk
  intro n k cs' hl hk
  simp only [optOptimize_loop2, idx_opsG T k hk, Option.bind_eq_bind, Option.bind_some]
  rw [← single_tie (T.getD k []) cs' (hl ▸ hs k) c (opsG T) k (optOptimize_loop2 n ((k : Int) + 1) c (opsG T)), bne]
  cases len (toGs (T.getD k [])) == 1 <;> rfl

def sweepStep (k : Nat) (st : List (List Op) × List Nat) (j : Nat) : List (List Op) × List Nat :=
  let T' := st.1.set j (pruneUses (st.1.getD j []) k)
  (T', bumpSingle st.2 (T'.getD j []))

def sweep (k : Nat) (T : List (List Op)) (cs : List Nat) (l n : Nat) : List (List Op) × List Nat :=
  (List.range' l n).foldl (sweepStep k) (T, cs)

theorem scoped_set (N : Nat) (T : List (List Op)) (j : Nat) (v : List Op) (hs : Scoped N T)
    (hv : ∀ o ∈ v, o.1 < N ∧ o.2 < N) : Scoped N (T.set j v) := by
  intro l o ho
  by_cases hl : j = l
  · subst hl
    by_cases hj : j < T.length
    · rw [getD_set_self _ _ _ _ hj] at ho; exact hv o ho
    · rw [List.set_eq_of_length_le (by omega)] at ho; exact hs j o ho
  · rw [getD_set_ne _ _ _ hl] at ho; exact hs l o ho

theorem sweepStep_length1 (k : Nat) (st : List (List Op) × List Nat) (j : Nat) :
    (sweepStep k st j).1.length = st.1.length := by simp [sweepStep]

theorem sweepStep_length2 (k : Nat) (st : List (List Op) × List Nat) (j : Nat) :
    (sweepStep k st j).2.length = st.2.length := (bumpSingle_grows _ _).1

theorem sweepStep_scoped (N k : Nat) (st : List (List Op) × List Nat) (j : Nat) (hs : Scoped N st.1) :
    Scoped N (sweepStep k st j).1 :=
  scoped_set N st.1 j _ hs fun o ho => hs j o (List.mem_filter.1 ho).1

theorem sweep_inv (N k : Nat) (n l : Nat) (T : List (List Op)) (cs : List Nat) (hs : Scoped N T) :
    (sweep k T cs l n).1.length = T.length ∧ (sweep k T cs l n).2.length = cs.length ∧
      Scoped N (sweep k T cs l n).1 :=
  foldl_range'_inv (sweepStep k) (fun _ st => st.1.length = T.length ∧ st.2.length = cs.length ∧ Scoped N st.1)
    (l + n) (fun j st _ h => ⟨by rw [sweepStep_length1, h.1], by rw [sweepStep_length2, h.2.1],
      sweepStep_scoped N k st j h.2.2⟩) n l (T, cs) (Nat.le_refl _) ⟨rfl, rfl, hs⟩

theorem loop5_tie (c : List Int) (rm : List Int) (k : Nat) : ∀ (n l : Nat) (T : List (List Op)) (cs : List Nat),
    l + n ≤ T.length → Scoped cs.length T →
    optOptimize_loop5 n (l : Int) c (opsG T) (ints cs) rm (k : Int) =
      some (opsG (sweep k T cs l n).1, ints (sweep k T cs l n).2) := by
  intro n l T cs hl hs
  refine countLoop (fun n l st => optOptimize_loop5 n l c (opsG st.1) (ints st.2) rm k) (sweepStep k)
    (fun st => st.1.length = T.length ∧ st.2.length = cs.length ∧ Scoped cs.length st.1) T.length
    (fun j st h => ⟨by rw [sweepStep_length1, h.1], by rw [sweepStep_length2, h.2.1], sweepStep_scoped _ k st j h.2.2⟩)
    ?_ n l (T, cs) ⟨rfl, rfl, hs⟩ hl
  intro n l st ⟨hT, hc, hs⟩ hl
  have hlt : l < st.1.length := hT ▸ hl
  simp only [optOptimize_loop5, sweepStep, idx_opsG st.1 l hlt, pruneuses_tie, toGs_pruneUses,
    setIdx_opsG st.1 l _ hlt, Option.bind_eq_bind, Option.bind_some,
    idx_opsG (st.1.set l (pruneUses (st.1.getD l []) k)) l (by simpa using hlt),
    getD_set_self st.1 l (pruneUses (st.1.getD l []) k) [] hlt, loop6_eq_loop3]
  exact single_tie (pruneUses (st.1.getD l []) k) st.2 (fun o ho => hc ▸ hs l o (List.mem_filter.1 ho).1) c _ k _

abbrev SeqSt := List (List Op) × List Nat × List Nat

/-- one candidate position, sequentially as the Go code does it -/
def seqStep (N : Nat) (st : SeqSt) (k : Nat) : SeqSt :=
  if st.2.1.getD k 0 > 0 then st else
    let sw := sweep k st.1 st.2.1 (k + 1) (N - (k + 1))
    (sw.1, sw.2, st.2.2 ++ [k])

structure SeqInv (N : Nat) (st : SeqSt) : Prop where
  lenT : st.1.length = N
  lenC : st.2.1.length = N
  sc : Scoped N st.1

theorem seqStep_inv (N : Nat) (st : SeqSt) (k : Nat) (h : SeqInv N st) : SeqInv N (seqStep N st k) := by
  unfold seqStep
  split
  · exact h
  · obtain ⟨h1, h2, h3⟩ := sweep_inv N k (N - (k + 1)) (k + 1) st.1 st.2.1 h.sc
    exact ⟨h1.trans h.lenT, h2.trans h.lenC, h3⟩

theorem loop4_tie (c : List Int) : ∀ (n k : Nat) (st : SeqSt), SeqInv c.length st → k + n ≤ c.length →
    optOptimize_loop4 n (k : Int) c (opsG st.1) (ints st.2.1) (ints st.2.2) =
      (let st' := (List.range' k n).foldl (seqStep c.length) st
       optOptimize_loop4 0 ((k + n : Nat) : Int) c (opsG st'.1) (ints st'.2.1) (ints st'.2.2)) := by
  refine countLoop (fun n k st => optOptimize_loop4 n k c (opsG st.1) (ints st.2.1) (ints st.2.2))
    (seqStep c.length) (SeqInv c.length) c.length (fun k st => seqStep_inv _ st k) ?_
  intro n k st hinv hk
  have hidx : idx (ints st.2.1) (k : Int) = some ((st.2.1.getD k 0 : Nat) : Int) :=
    idx_map_natCast Int.ofNat st.2.1 0 k (hinv.lenC ▸ hk)
  simp only [optOptimize_loop4, hidx, Option.bind_eq_bind, Option.bind_some]
  by_cases hc : st.2.1.getD k 0 > 0
  · rw [show seqStep c.length st k = st from if_pos hc, if_pos (decide_eq_true (Int.natCast_pos.2 hc))]
  · have hsw := loop5_tie c (ints st.2.2) k (c.length - (k + 1)) (k + 1) st.1 st.2.1
      (by rw [hinv.lenT, Nat.add_sub_cancel' hk]; exact Nat.le_refl _) (by rw [hinv.lenC]; exact hinv.sc)
    rw [Int.natCast_add_one] at hsw
    rw [show seqStep c.length st k = _ from if_neg hc, if_neg fun h => hc (Int.natCast_pos.1 (of_decide_eq_true h)),
      ← Int.natCast_add_one, toNat_len_sub, Int.natCast_add_one, hsw]
    simp only [ints, List.map_append, List.map_cons, List.map_nil, Option.bind_some]
    rfl

def keepFrom : List Int → Nat → List Nat → List Int
  | [], _, _ => []
  | x :: xs, i, rm => if rm.head? = some i then keepFrom xs (i + 1) rm.tail else x :: keepFrom xs (i + 1) rm

theorem loop7_tie (c : List Int) (ops : List (List GOp)) (counts : List Int) :
    ∀ (xs : List Int) (i : Nat) (rm : List Nat) (pruned : List Int),
    optOptimize_loop7 xs (i : Int) c ops counts (ints rm) pruned = some (pruned ++ keepFrom xs i rm, none) := by
  intro xs
  induction xs with
  | nil => intro i rm pruned; simp [optOptimize_loop7, keepFrom, goNil]
  | cons x xs ih =>
    intro i rm pruned
    cases rm with
    | nil =>
      -- nothing is left to remove: the test fails and `x` is kept
      have round : optOptimize_loop7 (x :: xs) i c ops counts (ints []) pruned =
          optOptimize_loop7 xs ((i + 1 : Nat) : Int) c ops counts (ints []) (pruned ++ [x]) := rfl
      rw [round, ih, List.append_assoc]
      rfl
    | cons r rm =>
      have hlen : decide (len (ints (r :: rm)) > 0) = true := by simp [len, ints]
      have hidx : idx (ints (r :: rm)) 0 = some (r : Int) := rfl
      have hsl : sliceFrom (ints (r :: rm)) 1 = some (ints rm) := rfl
      simp only [optOptimize_loop7, hlen, if_true, hidx, hsl, Option.bind_eq_bind, Option.bind_some, pure, keepFrom,
        List.head?_cons, List.tail_cons, Option.some.injEq, beq_cast, beq_iff_eq, ← Int.natCast_add_one, ih,
        List.append_assoc, List.cons_append, List.nil_append]
      split <;> rfl

def seqT0 (c : Chain) : List (List Op) := fillOps c (List.replicate c.length []) 1 (c.length - 1)
def seqC0 (c : Chain) : List Nat := countsFrom (seqT0 c) (List.replicate c.length 0) 1 (c.length - 1)
def seqFin (c : Chain) : SeqSt :=
  (List.range' 1 (c.length - 1 - 1)).foldl (seqStep c.length) (seqT0 c, seqC0 c, [])
def seqOptimize (c : Chain) : Chain := keepFrom c 0 (seqFin c).2.2

theorem seqT0_scoped (c : Chain) : Scoped c.length (seqT0 c) := by
  by_cases hc : c.length = 0
  · intro l o ho; simp [seqT0, hc, fillOps] at ho
  · refine foldl_range'_inv (fun T j => T.set j (ops c j)) (fun _ T => Scoped c.length T) c.length
      (fun j T hj hs => scoped_set _ T j _ hs fun o ho => ?_) (c.length - 1) 1 _
      (Nat.le_of_eq (Nat.add_sub_cancel' (Nat.pos_of_ne_zero hc))) fun l o ho => ?_
    · have h := (mem_ops c j o.1 o.2 hj).1 ho
      exact ⟨Nat.lt_of_le_of_lt h.1 (Nat.lt_trans h.2.1 hj), Nat.lt_trans h.2.1 hj⟩
    · rw [getD_replicate] at ho; cases ho

theorem seqInv0 (c : Chain) : SeqInv c.length (seqT0 c, seqC0 c, []) :=
  ⟨(fillOps_length ..).trans (List.length_replicate ..), (countsFrom_length ..).trans (List.length_replicate ..),
    seqT0_scoped c⟩

theorem optOptimize_seq (c : Chain) : optOptimize c = some (seqOptimize c, none) := by
  by_cases hc : c = []
  · subst hc; rfl
  have hpos : 0 < c.length := List.length_pos_iff.2 hc
  have hN : 1 + (c.length - 1) = c.length := Nat.add_sub_cancel' hpos
  have hN' : 1 + (c.length - 1 - 1) ≤ c.length :=
    Nat.le_trans (Nat.add_le_add_left (Nat.sub_le _ 1) 1) (Nat.le_of_eq hN)
  have hmk : makeOpLists (len c) = some (opsG (List.replicate c.length [])) := by
    rw [opsG, List.map_replicate]; exact makeOpLists_natCast _
  have hmi : makeInts (len c) = some (ints (List.replicate c.length 0)) := by
    rw [ints, List.map_replicate]; exact makeInts_natCast _
  have hN1 : (len c - 1).toNat = c.length - 1 := toNat_len_sub c 1
  have hN2 : (len c - 1 - 1).toNat = c.length - 1 - 1 := by
    rw [Int.sub_sub, Nat.sub_sub]; exact toNat_len_sub c 2
  have h1 : optOptimize_loop1 (c.length - 1) 1 c (opsG (List.replicate c.length [])) = _ :=
    loop1_tie c (c.length - 1) 1 _ hN (List.length_replicate ..)
  have h2 : optOptimize_loop2 (c.length - 1) 1 c (opsG (seqT0 c)) (ints (List.replicate c.length 0)) = _ :=
    loop2_tie c (seqT0 c) (c.length - 1) 1 _ (by rw [(seqInv0 c).lenT, hN]; exact Nat.le_refl _)
      (by rw [List.length_replicate]; exact seqT0_scoped c)
  have h4 : optOptimize_loop4 (c.length - 1 - 1) 1 c (opsG (seqT0 c)) (ints (seqC0 c)) [] = _ :=
    loop4_tie c (c.length - 1 - 1) 1 (seqT0 c, seqC0 c, []) (seqInv0 c) hN'
  simp only [optOptimize, hmk, Option.bind_eq_bind, Option.bind_some, hN1]
  refine h1.trans ?_
  simp only [optOptimize_loop1, hmi, Option.bind_eq_bind, Option.bind_some, hN1]
  refine h2.trans ?_
  simp only [optOptimize_loop2, hN2]
  refine h4.trans ?_
  simp only [optOptimize_loop4]
  exact loop7_tie c _ _ c 0 (seqFin c).2.2 []

theorem range_filter_gt (N k : Nat) :
    (List.range N).filter (fun j => decide (k < j)) = List.range' (k + 1) (N - (k + 1)) :=
  filter_le_range N (k + 1)

theorem seqT0_eq (c : Chain) : seqT0 c = (initSt c).ops := by
  show _ = (List.range c.length).map fun k => if k == 0 then [] else ops c k
  refine ext_getD [] (by rw [(seqInv0 c).lenT, List.length_map, List.length_range]) fun j hj => ?_
  rw [(seqInv0 c).lenT] at hj
  have hN : 1 + (c.length - 1) = c.length := Nat.add_sub_cancel' (Nat.lt_of_le_of_lt (Nat.zero_le j) hj)
  rw [seqT0, fillOps,
    getD_foldl_set (fun j _ => ops c j) [] _ 1 _ (by rw [List.length_replicate, hN]; exact Nat.le_refl _),
    getD_replicate, getD_map_range _ _ hj, hN]
  cases j with
  | zero => rfl
  | succ j => rw [if_pos ⟨Nat.le_add_left 1 j, hj⟩]; rfl

theorem seqC0_eq (c : Chain) : seqC0 c = (initSt c).counts := by
  have hf := range_filter_gt c.length 0
  show countsFrom (seqT0 c) (List.replicate c.length 0) 1 (c.length - 1) =
    ((List.range c.length).filter (fun j => decide (0 < j))).foldl
      (fun cs k => bumpSingle cs ((initSt c).ops.getD k [])) (List.replicate c.length 0)
  rw [hf, ← seqT0_eq]
  rfl

theorem sweep_fst (k : Nat) (T : List (List Op)) (cs : List Nat) (l n : Nat) :
    (sweep k T cs l n).1 = (List.range' l n).foldl (fun T j => T.set j (pruneUses (T.getD j []) k)) T :=
  (List.foldl_hom Prod.fst fun _ _ => rfl).symm

theorem sweep_spec (k : Nat) : ∀ (n l : Nat) (T : List (List Op)) (cs : List Nat), l + n ≤ T.length →
    (∀ j, (sweep k T cs l n).1.getD j [] =
        if l ≤ j ∧ j < l + n then pruneUses (T.getD j []) k else T.getD j []) ∧
    (sweep k T cs l n).2 = (List.range' l n).foldl (fun cs j => bumpSingle cs (pruneUses (T.getD j []) k)) cs := by
  intro n l T cs hl
  have h1 : ∀ n, l + n ≤ T.length → ∀ j, (sweep k T cs l n).1.getD j [] =
      if l ≤ j ∧ j < l + n then pruneUses (T.getD j []) k else T.getD j [] := fun n hn j => by
    rw [sweep_fst]; exact getD_foldl_set (fun _ L => pruneUses L k) [] T l n hn j
  refine ⟨h1 n hl, ?_⟩
  induction n with
  | zero => rfl
  | succ n ih =>
    -- position `l + n` still holds its original list when the sweep reaches it
    have hn : l + n ≤ T.length := Nat.le_of_succ_le hl
    have hcur : (sweep k T cs l n).1.getD (l + n) [] = T.getD (l + n) [] := by
      rw [h1 n hn, if_neg fun h => Nat.lt_irrefl _ h.2]
    rw [sweep, foldl_range'_last, foldl_range'_last, ← sweep, sweepStep, ih hn,
      getD_set_self _ _ _ _ (by rw [sweep_fst, length_foldl_set]; exact hl), hcur]

def toSt (st : SeqSt) : St := ⟨st.1, st.2.1, st.2.2⟩

theorem mapIdx_getD (T : List (List Op)) (f : Nat → List Op → List Op) (j : Nat) (hj : j < T.length) :
    (T.mapIdx f).getD j [] = f j (T.getD j []) := by
  simp [List.getD_eq_getElem?_getD, List.getElem?_mapIdx, List.getElem?_eq_getElem hj]

theorem seqStep_eq_step (N : Nat) (st : SeqSt) (k : Nat) (h : SeqInv N st) (hk : k < N) :
    toSt (seqStep N st k) = step N (toSt st) k := by
  unfold seqStep step toSt
  split
  · rfl
  · have hN : k + 1 + (N - (k + 1)) = N := Nat.add_sub_cancel' hk
    have hl1 := (sweep_inv N k (N - (k + 1)) (k + 1) st.1 st.2.1 h.sc).1.trans h.lenT
    obtain ⟨hs1, hs2⟩ := sweep_spec k (N - (k + 1)) (k + 1) st.1 st.2.1 (by rw [hN, h.lenT]; exact Nat.le_refl _)
    have hops : (sweep k st.1 st.2.1 (k + 1) (N - (k + 1))).1 =
        st.1.mapIdx (fun l o => if k < l then pruneUses o k else o) := by
      refine ext_getD [] (by rw [hl1, List.length_mapIdx, h.lenT]) fun j hj => ?_
      rw [hl1] at hj
      rw [hs1 j, mapIdx_getD _ _ j (h.lenT ▸ hj)]
      simp only [hN, hj, and_true, Nat.add_one_le_iff]
    have hcounts : (sweep k st.1 st.2.1 (k + 1) (N - (k + 1))).2 =
        ((List.range N).filter (fun l => decide (k < l))).foldl
          (fun cs l => bumpSingle cs ((st.1.mapIdx (fun l o => if k < l then pruneUses o k else o)).getD l [])) st.2.1 := by
      rw [hs2, range_filter_gt]
      refine foldl_congr_mem _ _ _ _ fun cs j hj => ?_
      rw [List.mem_range'_1, hN] at hj
      rw [mapIdx_getD _ _ j (h.lenT ▸ hj.2), if_pos (show k < j from hj.1)]
    simp only [hops, hcounts]

theorem fold_seq_eq_step (N : Nat) : ∀ (ks : List Nat) (st : SeqSt), SeqInv N st → (∀ k ∈ ks, k < N) →
    toSt (ks.foldl (seqStep N) st) = ks.foldl (step N) (toSt st) := by
  intro ks
  induction ks with
  | nil => intro st _ _; rfl
  | cons k ks ih =>
    intro st h hk
    rw [List.foldl_cons, List.foldl_cons, ih _ (seqStep_inv N st k h) (fun k' hk' => hk k' (by simp [hk'])),
      seqStep_eq_step N st k h (hk k (by simp))]

/-! ### the removal list is ascending, and removing by popping its head is removing by membership -/

def RmInv (k : Nat) (rm : List Nat) : Prop := rm.Pairwise (· < ·) ∧ ∀ r ∈ rm, r < k

theorem seqStep_rm (N : Nat) (st : SeqSt) (k : Nat) (h : RmInv k st.2.2) : RmInv (k + 1) (seqStep N st k).2.2 := by
  have hlt : ∀ r ∈ st.2.2, r < k + 1 := fun r hr => Nat.lt_succ_of_lt (h.2 r hr)
  unfold seqStep
  split
  · exact ⟨h.1, hlt⟩
  · refine ⟨List.pairwise_append.2 ⟨h.1, List.pairwise_singleton _ _, fun a ha b hb => ?_⟩, fun r hr => ?_⟩
    · rw [List.mem_singleton.1 hb]; exact h.2 a ha
    · rcases List.mem_append.1 hr with hr | hr
      · exact hlt r hr
      · rw [List.mem_singleton.1 hr]; exact Nat.lt_succ_self k

theorem fold_rm (N : Nat) : ∀ (n k : Nat) (st : SeqSt), RmInv k st.2.2 →
    RmInv (k + n) ((List.range' k n).foldl (seqStep N) st).2.2 := fun n k st h =>
  foldl_range'_inv (seqStep N) (fun k st => RmInv k st.2.2) (k + n) (fun k st _ => seqStep_rm N st k) n k st
    (Nat.le_refl _) h

theorem keepFrom_spec : ∀ (xs : List Int) (i : Nat) (rm : List Nat), rm.Pairwise (· < ·) → (∀ r ∈ rm, i ≤ r) →
    keepFrom xs i rm =
      ((List.range' i xs.length).zip xs).filterMap (fun p => if rm.contains p.1 then none else some p.2) := by
  intro xs
  induction xs with
  | nil => intro i rm _ _; rfl
  | cons x xs ih =>
    intro i rm hp hge
    rw [keepFrom, List.length_cons, List.range'_succ, List.zip_cons_cons, List.filterMap_cons]
    by_cases hh : rm.head? = some i
    · -- the head is `i`: everything behind it is larger, so later positions see the same membership
      obtain ⟨rm', rfl⟩ : ∃ rm', rm = i :: rm' := by
        cases rm with
        | nil => cases hh
        | cons r rm' => exact ⟨rm', by rw [Option.some.inj hh]⟩
      have hp' := List.pairwise_cons.1 hp
      rw [if_pos hh, if_pos (by simp), List.tail_cons, ih (i + 1) rm' hp'.2 hp'.1]
      refine filterMap_congr_mem _ _ _ fun p hp2 => ?_
      have hne : i ≠ p.1 := Nat.ne_of_lt (List.mem_range'_1.1 (List.of_mem_zip hp2).1).1
      simp [hne.symm]
    · -- the head is larger than `i`, hence so is everything
      have hgt : ∀ r ∈ rm, i + 1 ≤ r := by
        cases rm with
        | nil => intro r hr; cases hr
        | cons r rm' =>
          have hr : i < r := Nat.lt_of_le_of_ne (hge r (by simp)) fun e => hh (by rw [e]; rfl)
          intro y hy
          rcases List.mem_cons.1 hy with rfl | hy
          · exact hr
          · exact Nat.lt_trans hr ((List.pairwise_cons.1 hp).1 y hy)
      have hni : rm.contains i = false := by
        rw [List.contains_eq_mem, decide_eq_false_iff_not]; exact fun h => Nat.lt_irrefl i (hgt i h)
      rw [if_neg hh, hni, ih (i + 1) rm hp hgt]
      rfl

theorem zip_range_filterMap (g : Nat → Int → Option Int) : ∀ (xs pre : List Int),
    ((List.range' pre.length xs.length).zip xs).filterMap (fun p => g p.1 p.2) =
      (List.range' pre.length xs.length).filterMap (fun j => g j (at' (pre ++ xs) j)) := by
  intro xs
  induction xs with
  | nil => intro pre; rfl
  | cons x xs ih =>
    intro pre
    have hx : at' (pre ++ x :: xs) pre.length = x := by simp [at']
    have := ih (pre ++ [x])
    rw [List.length_append, List.length_singleton, List.append_assoc, List.singleton_append] at this
    rw [List.length_cons, List.range'_succ, List.zip_cons_cons, List.filterMap_cons, List.filterMap_cons, hx, this]

theorem seqOptimize_eq (c : Chain) : seqOptimize c = optimize c := by
  have hlt : ∀ k ∈ List.range' 1 (c.length - 1 - 1), k < c.length := fun k hk => by
    have : 1 ≤ k ∧ k < 1 + (c.length - 1 - 1) := List.mem_range'_1.1 hk
    omega
  have hfin : ((List.range (c.length - 1)).filter (fun j => decide (0 < j))).foldl (step c.length) (initSt c) =
      toSt (seqFin c) := by
    rw [range_filter_gt, seqFin, fold_seq_eq_step c.length _ _ (seqInv0 c) hlt, toSt, seqT0_eq, seqC0_eq]
    rfl
  have hrm := fold_rm c.length (c.length - 1 - 1) 1 (seqT0 c, seqC0 c, []) ⟨List.Pairwise.nil, fun _ h => nomatch h⟩
  rw [seqOptimize, keepFrom_spec c 0 (seqFin c).2.2 hrm.1 (fun _ _ => Nat.zero_le _), optimize, hfin,
    List.range_eq_range']
  exact zip_range_filterMap (fun j x => if (seqFin c).2.2.contains j then none else some x) c []

/-- **`opt.Optimize` as translated from opt.go equals the model**, for every chain: no panic, nil error,
    and the chain `P.OptX.optimize c` -/
theorem optimize_tie (c : Chain) : optOptimize c = some (optimize c, none) := by
  rw [optOptimize_seq, seqOptimize_eq]

end AC.OptTie
