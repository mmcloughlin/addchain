import AC.ProgramTie
import AC.BigintTie
import AC.BigintsTie
import AC.Decomp
import AC.GoAlg
/-! # The translated `FixedWindow.Decompose`, `Term.Int`, `Sum.Int`, `Sum.Dictionary` equal their models (C09)

`dictFixedWindowDecompose`, `dictTermInt`, `dictSumInt`, `dictSumDictionary` of `AC/Gen/ProgramFns.lean` are
regenerated from alg/dict/dict.go on every run. The window width `K` is the struct's single field;
`Sum.SortByExponent` is the primitive insertion sort. -/
namespace AC.DecompTie
open AC.Gen.Program AC.GoPrim AC.BigPrim P P.Bits P.HX

def toGT (t : Term) : GTerm := ⟨(t.d : Int), t.e⟩
def toGTs (l : List Term) : List GTerm := l.map toGT

theorem insert_tie (t : Term) : ∀ l : List Term, insertGTerm (toGT t) (toGTs l) = toGTs (insertByE t l) := by
  intro l
  induction l with
  | nil => rfl
  | cons u r ih =>
    rw [insertByE]
    by_cases h : t.e < u.e
    · rw [if_pos h]; exact if_pos h
    · rw [if_neg h]; exact (if_neg h).trans (congrArg (toGT u :: ·) ih)

theorem sort_tie : ∀ l : List Term, sumSortByExponent (toGTs l) = toGTs (sortByE l) := by
  intro l
  induction l with
  | nil => rfl
  | cons t l ih => exact (congrArg (insertGTerm (toGT t)) ih).trans (insert_tie t _)

theorem max_sub_zero (a b : Nat) : max ((a : Int) - (b : Int)) 0 = ((a - b : Nat) : Int) := by
  rw [← Int.toNat_eq_max, Int.toNat_sub]

theorem toGTs_snoc (l : List Term) (t : Term) : toGTs (l ++ [t]) = toGTs l ++ [toGT t] := List.map_append

theorem fixed_loop_tie (x K : Nat) (hK : 1 ≤ K) : ∀ (fuel h : Nat) (sum : List Term), h ≤ fuel →
    dictFixedWindowDecompose_loop1 fuel K (x : Int) (toGTs sum) (h : Int) =
      some (sumSortByExponent (toGTs (sum ++ fixedW x K fuel h))) := by
  intro fuel
  induction fuel with
  | zero =>
    intro h sum hh
    rw [Nat.le_zero.1 hh]
    simp [dictFixedWindowDecompose_loop1, fixedW]
  | succ fuel ih =>
    intro h sum hh
    cases h with
    | zero => simp [dictFixedWindowDecompose_loop1, fixedW]
    | succ h =>
      have hpos : (0 : Int) < ((h + 1 : Nat) : Int) := Int.natCast_pos.2 (Nat.succ_pos h)
      have hl : h + 1 - K ≤ fuel := Nat.le_trans (Nat.sub_le_sub_left hK (h + 1)) (Nat.le_of_succ_le_succ hh)
      simp only [dictFixedWindowDecompose_loop1, go_simp, hpos, if_true, Int.ofNat_eq_natCast, max_sub_zero,
        AC.BigintTie.extract_natCast x _ _ (Nat.sub_le (h + 1) K), ne_eq, Int.natCast_eq_zero, fixedW]
      generalize h + 1 - K = l at hl ⊢
      generalize x / 2 ^ l % 2 ^ (h + 1 - l) = d
      by_cases hd : d = 0
      · rw [if_neg (not_not_intro hd), if_neg (not_not_intro hd)]
        exact ih l sum hl
      · rw [if_pos hd, if_pos hd, List.append_cons sum, ← ih l _ hl, toGTs_snoc]
        rfl

theorem fixedWindow_tie (x K : Nat) (hx : 1 ≤ x) (hK : 1 ≤ K) :
    dictFixedWindowDecompose K (x : Int) = some (toGTs (decompose .fixed x K 0)) := by
  have := fixed_loop_tie x K hK (Nat.log2 x + 1) (Nat.log2 x + 1) [] (Nat.le_refl _)
  rw [List.nil_append, sort_tie] at this
  unfold dictFixedWindowDecompose
  rw [bBitLen_pos x (Nat.ne_of_gt hx)]
  exact this

theorem termInt_tie (t : Term) : dictTermInt (toGT t) = some ((t.d * 2 ^ t.e : Nat) : Int) := by
  simp [dictTermInt, toGT, bLsh, Int.natCast_pow]

theorem sumInt_loop_tie (s : List GTerm) : ∀ (l : List Term) (acc : Nat),
    dictSumInt_loop1 (toGTs l) s (acc : Int) = some ((acc + value l : Nat) : Int) := by
  intro l
  induction l with
  | nil => intro acc; rfl
  | cons t l ih =>
    intro acc
    rw [value_cons, ← Nat.add_assoc, ← ih, Int.natCast_add]
    simp only [toGTs, List.map_cons, dictSumInt_loop1, termInt_tie, go_simp]

theorem sumInt_tie (s : List Term) : dictSumInt (toGTs s) = some ((value s : Nat) : Int) := by
  have := sumInt_loop_tie (toGTs s) s 0
  rw [Nat.zero_add] at this
  exact this

theorem dictionary_loop_tie (s : List GTerm) : ∀ (l : List Term) (acc : List Int),
    dictSumDictionary_loop1 (toGTs l) s acc = some (P.sortUniq (acc ++ l.map fun t => (t.d : Int))) := by
  intro l
  induction l with
  | nil =>
    intro acc
    rw [List.map_nil, List.append_nil]
    exact AC.BigintsTie.unique_tie _
  | cons t l ih =>
    intro acc
    rw [List.map_cons, List.append_cons, ← ih]
    rfl

theorem dictionary_tie (s : List Term) : dictSumDictionary (toGTs s) = some (dictionary s) :=
  dictionary_loop_tie (toGTs s) s []

end AC.DecompTie
