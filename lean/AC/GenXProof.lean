import AC.GenX
import AC.AllocXProof
/-! Lemmas for C06: the listing template output reads back; conversions between the `String`-named
program and the `List Char`-named lines of the listing. -/
namespace AC.GenX
open P.Alloc AC.AllocX P.Listing

theorem tmpLineX_cons (g : List Char) (r : List (List Char)) : tmpLineX (g :: r) = tmpLine (g :: r) := by
  simp [tmpLineX, tmpLine, joinWith]

/-- **the listing, read as documented, gives back the declared temporaries and the instructions**
    (also when no temporary is declared: the `tmp` line is then `tmp` followed by a tab) -/
theorem readListingX_render (tmps : List (List Char)) (ls : List Line)
    (ht : ∀ t ∈ tmps, NameOK t ∧ t ≠ []) (hl : ∀ l ∈ ls, LineOK l) :
    readListing (renderListingX tmps ls) = some (tmps, ls) := by
  cases tmps with
  | cons g r =>
    unfold renderListingX
    rw [tmpLineX_cons]
    exact readListing_render (g :: r) ls ht hl
  | nil =>
    refine readListing_lines _ [] ls ?_ ?_ hl
    · simp [tmpLineX, joinWith]
    · simp [tmpLineX, joinWith, splitAt, readTmp]

/-- a listing line as a named instruction -/
def ofLine (l : Line) : NInst (List Char) :=
  match l.op with
  | .add x y => ⟨l.out, .add x y⟩
  | .dbl x => ⟨l.out, .dbl x⟩
  | .shl x s => ⟨l.out, .shl x s⟩

/-- the naming configuration with names as character lists -/
def cfgL (cfg : Cfg String) : Cfg (List Char) :=
  ⟨cfg.input.toList, cfg.output.toList, fun k => (cfg.temp k).toList⟩

theorem nameX_cfgL (cfg : Cfg String) (ir : List Inst) (i : Nat) :
    nameX (cfgL cfg) ir i = (nameX cfg ir i).toList := by
  unfold nameX
  cases regOf ir i <;> rfl

theorem ofLine_toLine (nm : Nat → String) (inst : Inst) :
    ofLine (toLine (nameInst nm inst)) = nameInst (fun i => (nm i).toList) inst := by
  obtain ⟨o, op⟩ := inst
  cases op <;> rfl

theorem map_ofLine_toLine (cfg : Cfg String) (ir : List Inst) :
    ((ir.map (nameInst (nameX cfg ir))).map toLine).map ofLine = ir.map (nameInst (nameX (cfgL cfg) ir)) := by
  simp only [List.map_map]
  refine List.map_congr_left fun inst _ => ?_
  simp only [Function.comp, ofLine_toLine]
  exact congrArg (nameInst · inst) (funext fun i => (nameX_cfgL cfg ir i).symm)

theorem tempsOf_cfgL (cfg : Cfg String) (A : TMap) :
    (tempsOf cfg A).map String.toList = tempsOf (cfgL cfg) A := by
  simp [tempsOf, cfgL]

theorem namesDistinct_cfgL (cfg : Cfg String) (hd : NamesDistinct cfg) : NamesDistinct (cfgL cfg) := by
  constructor <;> simp only [cfgL, ne_eq, String.toList_inj]
  · exact hd.io
  · exact hd.ti
  · exact hd.to
  · exact hd.tt

/-- names usable in the listing format: no tab, no newline; temporaries non-empty -/
structure CfgOK (cfg : Cfg String) : Prop where
  input : NameOK cfg.input.toList
  output : NameOK cfg.output.toList
  temp : ∀ k, NameOK (cfg.temp k).toList ∧ (cfg.temp k).toList ≠ []

theorem nameX_ok (cfg : Cfg String) (hok : CfgOK cfg) (ir : List Inst) (i : Nat) :
    NameOK (nameX cfg ir i).toList := by
  unfold nameX
  cases regOf ir i
  · exact hok.input
  · exact hok.output
  · exact (hok.temp _).1

theorem lineOK_toLine (nm : Nat → String) (h : ∀ i, NameOK (nm i).toList) (inst : Inst) :
    LineOK (toLine (nameInst nm inst)) := by
  obtain ⟨o, op⟩ := inst
  cases op <;> simp only [toLine, nameInst, nameOp, LineOK, h, and_self]

theorem outCanon_wfs : ∀ (ir : List Inst) (seen : List Nat), WFs ir → (∀ s ∈ seen, s ∉ outs ir) →
    ∀ b ∈ outCanonFrom seen ir, b = true := by
  intro ir
  induction ir with
  | nil => intro _ _ _ b hb; cases hb
  | cons a r ih =>
    intro seen ⟨hout, hin, hr⟩ hs b hb
    rcases List.mem_cons.mp hb with rfl | hb
    · simp only [Bool.not_eq_true', List.contains_eq_mem, List.mem_append, decide_eq_false_iff_not]
      rintro (hm | hm)
      · exact (hin _ hm).1 rfl
      · exact hs _ hm List.mem_cons_self
    · refine ih _ hr (fun s hsm => ?_) b hb
      rcases List.mem_cons.mp hsm with rfl | hsm
      · exact hout
      · rcases List.mem_append.mp hsm with hsm | hsm
        · exact (hin s hsm).2
        · exact fun h => hs s hsm (List.mem_cons_of_mem _ h)

theorem outCanonFrom_length : ∀ (ir : List Inst) (seen : List Nat), (outCanonFrom seen ir).length = ir.length := by
  intro ir
  induction ir with
  | nil => intro _; rfl
  | cons a r ih => intro seen; simp [outCanonFrom, ih]

/-- on a well-formed program `fixOutputs` changes nothing: the allocator's names reach every operand -/
theorem fixOutputs_wf (ir : List Inst) (preOut : List String) (prog : List (NInst String))
    (hwf : AC.PeakLive.wfB ir = true) (hlen : preOut.length = ir.length) (hp : prog.length = ir.length) :
    fixOutputs ir preOut prog = prog := by
  have hc : ∀ b ∈ outCanon ir, b = true := outCanon_wfs ir [] (wfFrom_sound ir [] 0 nofun hwf).1 nofun
  unfold fixOutputs
  -- every flag zipped to the program is `true`, so the map keeps the first components
  rw [List.map_congr_left (g := Prod.fst) fun p hp => if_pos (hc _ (List.of_mem_zip (List.of_mem_zip hp).2).1)]
  exact List.map_fst_zip (Nat.le_of_eq (by
    rw [List.length_zip, List.length_zip, outCanon, outCanonFrom_length, hlen, hp, Nat.min_self, Nat.min_self]))

theorem progAdd_ok (p : Array (Nat × Nat)) (i j : Nat) (p' : Array (Nat × Nat)) (out : Nat)
    (h : progAdd p i j = .ok (p', out)) : out = p'.size ∧ p.size < p'.size := by
  unfold progAdd at h
  split at h
  · cases h
  · split at h
    · cases h
    · cases h; exact ⟨rfl, Array.size_push (xs := p) _ ▸ Nat.lt_succ_self _⟩

theorem progShift_ok : ∀ (s : Nat) (p : Array (Nat × Nat)) (i : Nat) (p' : Array (Nat × Nat)) (out : Nat),
    progShift p i s = .ok (p', out) → (out = i ∧ p' = p) ∨ (out = p'.size ∧ p.size < p'.size) := by
  intro s
  induction s with
  | zero => intro p i p' out h; cases h; exact Or.inl ⟨rfl, rfl⟩
  | succ s ih =>
    intro p i p' out h
    simp only [progShift] at h
    split at h
    · rename_i p1 n1 ha
      obtain ⟨h1, h2⟩ := progAdd_ok p i i p1 n1 ha
      rcases ih p1 n1 p' out h with ⟨ho, hp⟩ | ⟨ho, hp⟩
      · exact Or.inr ⟨ho.trans (hp ▸ h1), hp ▸ h2⟩
      · exact Or.inr ⟨ho, Nat.lt_trans h2 hp⟩
    · cases h

theorem progOp_ok (p : Array (Nat × Nat)) (op : P.Alloc.Op) (p' : Array (Nat × Nat)) (out : Nat)
    (h : (match op with
      | .add x y => progAdd p x y
      | .dbl x => progAdd p x x
      | .shl x s => progShift p x s) = .ok (p', out)) :
    (out ∈ op.inputs ∧ p' = p) ∨ (out = p'.size ∧ p.size < p'.size) := by
  cases op with
  | add x y => exact Or.inr (progAdd_ok p x y p' out h)
  | dbl x => exact Or.inr (progAdd_ok p x x p' out h)
  | shl x s => exact (progShift_ok s p x p' out h).imp_left fun ⟨ho, hp⟩ => ⟨ho ▸ List.mem_singleton_self x, hp⟩

/-- validation (no dangling input, no repeated output) together with a successful `pass.Compile`
    (every output index is the position the unrolled program reaches) gives the well-formedness of
    C05: outputs ≥ 1 and strictly increasing, inputs 0 or earlier outputs -/
theorem compile_wf : ∀ (ir : List Inst) (p : Array (Nat × Nat)) (S D : List Nat) (last : Nat)
    (q : Array (Nat × Nat)), (∀ x, x ∈ S ↔ x = 0 ∨ x ∈ D) → last ≤ p.size →
    danglingFrom S ir = true → uniqueFrom S ir = true → compileFrom p ir = .ok q →
    AC.PeakLive.wfFrom D last ir = true := by
  intro ir
  induction ir with
  | nil => intro _ _ _ _ _ _ _ _ _ _; rfl
  | cons a r ih =>
    intro p S D last q hS hl hd hu hc
    simp only [danglingFrom, Bool.and_eq_true, List.all_eq_true, List.contains_iff_mem] at hd
    simp only [uniqueFrom, Bool.and_eq_true, Bool.not_eq_true', List.contains_eq_mem,
      decide_eq_false_iff_not] at hu
    obtain ⟨hin, hdr⟩ := hd
    obtain ⟨hnew, hur⟩ := hu
    simp only [compileFrom] at hc
    split at hc
    · cases hc
    · rename_i p' out hres
      split at hc
      · cases hc
      · rename_i hne
        have hout : out = a.out := by simpa using hne
        rcases progOp_ok p a.op p' out hres with ⟨hm, _⟩ | ⟨ho, hlt⟩
        · -- shift by zero: the output is the operand, which is already defined
          exact absurd (hin _ hm) (hout ▸ hnew)
        · have hap : a.out = p'.size := hout.symm.trans ho
          simp only [AC.PeakLive.wfFrom, Bool.and_eq_true, decide_eq_true_eq, List.all_eq_true, Bool.or_eq_true,
            beq_iff_eq, List.contains_iff_mem]
          refine ⟨⟨hap ▸ Nat.lt_of_le_of_lt hl hlt, fun x hx => (hS x).mp (hin x hx)⟩, ?_⟩
          refine ih p' (a.out :: S) (a.out :: D) a.out q (fun x => ?_) (Nat.le_of_eq hap) hdr hur hc
          simp only [List.mem_cons, hS x, or_left_comm]

/-- the three passes of `AC.Gen.genPasses`, run in order -/
theorem prepareX_eq (cfg : Cfg String) (ir : List Inst) (occ : List (Nat × String)) (preOut : List String) :
    prepareX cfg ir occ preOut =
      if !danglingFrom [0] ir then .error "no output instruction for input index"
      else if !uniqueFrom [0] ir then .error "multiple definitions of index"
      else match allocateN cfg ir occ with
        | .error e => .error e
        | .ok (prog, temps) =>
          match compileX ir with
          | .error e => .error e
          | .ok ops => .ok { prog := fixOutputs ir preOut prog, temps := temps, ops := ops, chain := evaluateX ops } := by
  simp [prepareX, AC.Gen.genPasses, runPasses, applyPass]
  cases danglingFrom [0] ir
  · rfl
  · cases uniqueFrom [0] ir
    · rfl
    · cases allocateN cfg ir occ with
      | error e => rfl
      | ok pt => cases compileX ir <;> rfl

theorem allocateN_ok {α} {cfg : Cfg α} {ir : List Inst} {occ : List (Nat × String)}
    {r : List (NInst α) × List α} (h : allocateN cfg ir occ = .ok r) : allocateX cfg ir = .ok r := by
  unfold allocateN at h
  split at h
  · cases h
  · split at h
    · cases h
    · exact h

end AC.GenX
