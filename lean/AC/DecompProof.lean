import AC.Decomp
import AC.HybridDisj
/-! Glue for C09: sorting by exponent a family of pairwise separated terms yields a list in which
    every term lies strictly below the exponent of every later term. -/
namespace P.Bits

/-- `a` lies entirely below `b`'s exponent -/
def Below (a b : Term) : Prop := a.d * 2 ^ a.e < 2 ^ b.e
/-- bit ranges do not overlap (order-free form) -/
def Sep (a b : Term) : Prop := Below a b ∨ Below b a

theorem Sep.symm {a b : Term} (h : Sep a b) : Sep b a := Or.symm h

theorem insertByE_perm (t : Term) : ∀ l, (insertByE t l).Perm (t :: l)
  | [] => List.Perm.refl _
  | u :: r => by
    unfold insertByE
    split
    · exact List.Perm.refl _
    · exact ((insertByE_perm t r).cons u).trans (List.Perm.swap t u r)

theorem sortByE_perm : ∀ l, (sortByE l).Perm l
  | [] => List.Perm.refl _
  | t :: r => by
    show (insertByE t (sortByE r)).Perm (t :: r)
    exact (insertByE_perm t _).trans ((sortByE_perm r).cons t)

theorem insertByE_sorted (t : Term) : ∀ l, l.Pairwise (fun a b => a.e ≤ b.e) →
    (insertByE t l).Pairwise (fun a b => a.e ≤ b.e)
  | [], _ => by simp [insertByE]
  | u :: r, h => by
    unfold insertByE
    rw [List.pairwise_cons] at h
    split
    · rename_i hlt
      refine List.pairwise_cons.2 ⟨?_, List.pairwise_cons.2 h⟩
      intro b hb
      rcases List.mem_cons.1 hb with rfl | hb
      · exact Nat.le_of_lt hlt
      · exact Nat.le_trans (Nat.le_of_lt hlt) (h.1 b hb)
    · rename_i hge
      refine List.pairwise_cons.2 ⟨?_, insertByE_sorted t r h.2⟩
      intro b hb
      rcases List.mem_cons.1 ((insertByE_perm t r).subset hb) with rfl | hb
      · exact Nat.not_lt.1 hge
      · exact h.1 b hb

theorem sortByE_sorted : ∀ l, (sortByE l).Pairwise (fun a b => a.e ≤ b.e)
  | [] => List.Pairwise.nil
  | t :: r => insertByE_sorted t _ (sortByE_sorted r)

theorem below_exp_lt {a b : Term} (ha : 0 < a.d) (h : Below a b) : a.e < b.e :=
  (Nat.pow_lt_pow_iff_right Nat.one_lt_two).1 (Nat.lt_of_le_of_lt (Nat.le_mul_of_pos_left _ ha) h)

theorem below_of_le {a b : Term} (hb : 0 < b.d) (hle : a.e ≤ b.e) (h : Sep a b) : Below a b :=
  h.elim id fun h => absurd (below_exp_lt hb h) (Nat.not_lt.2 hle)

theorem sortByE_below (l : List Term) (hpos : ∀ t ∈ l, 0 < t.d) (hsep : l.Pairwise Sep) :
    (sortByE l).Pairwise Below := by
  have hp := sortByE_perm l
  have h1 : (sortByE l).Pairwise Sep := hp.symm.pairwise hsep (fun h => h.symm)
  have h2 := sortByE_sorted l
  have h3 := h1.and h2
  have hpos' : ∀ t ∈ sortByE l, 0 < t.d := fun t ht => hpos t (hp.subset ht)
  clear h1 h2 hp hsep hpos
  generalize sortByE l = s at h3 hpos'
  induction h3 with
  | nil => exact List.Pairwise.nil
  | cons hx _ ih =>
    rename_i a l' _
    refine List.Pairwise.cons ?_ (ih (fun t ht => hpos' t (List.mem_cons_of_mem _ ht)))
    intro b hb
    exact below_of_le (hpos' b (List.mem_cons_of_mem _ hb)) (hx b hb).2 (hx b hb).1

theorem value_perm {l1 l2 : List Term} (h : l1.Perm l2) : value l1 = value l2 := by
  unfold value
  exact (h.map _).sum_nat

/-- the raw hybrid list is separated: runs among themselves, windows among themselves, and a window of the
    remainder never meets a long run -/
theorem hybrid_sep (x K T : Nat) (hK : 1 ≤ K) : (hybrid x K T).Pairwise Sep := by
  have hd := hybrid_disjoint x K T hK
  unfold hybrid
  dsimp only at hd ⊢
  rw [show x - value (hyRuns x K T (Nat.log2 x + 1) (Nat.log2 x + 1)) = yLow x K T (Nat.log2 x + 1) (Nat.log2 x + 1) by
    rw [yLow, Nat.mod_eq_of_lt Nat.lt_log2_self]]
  generalize Nat.log2 x + 1 = L at hd ⊢
  obtain ⟨_, r2, r3⟩ := hyRuns_spec x K T L L (Nat.le_refl _)
  obtain ⟨_, _, s3⟩ := sliding_spec (yLow x K T L L) K hK L L (Nat.le_refl _)
  refine List.pairwise_append.2 ⟨r3.imp .inr, s3.imp .inr, fun r hr s hs => ?_⟩
  obtain ⟨n, hnK, hn, _, _⟩ := r2 r hr
  obtain ⟨w, hw, h | h⟩ := hd r hr n hn hnK s hs
  · exact .inl (shift_lt (hn ▸ Nat.sub_lt (Nat.two_pow_pos n) Nat.one_pos) h)
  · exact .inr (shift_lt hw h)

end P.Bits
