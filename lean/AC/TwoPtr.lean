/-! Chains as lists of integers, reading a position (`at'`) with its lemmas, and the two-pointer scan
    of `Chain.Ops`. -/
namespace P

abbrev Chain := List Int

/-- `c[i]`, and 0 out of bounds. -/
def at' (c : Chain) (i : Nat) : Int := c.getD i 0

theorem at'_eq_getElem (c : Chain) (i : Nat) (h : i < c.length) : at' c i = c[i] := by
  simp [at', h]

theorem at'_mem_of_lt (c : Chain) (i : Nat) (h : i < c.length) : at' c i ∈ c := by
  rw [at'_eq_getElem c i h]; exact List.getElem_mem h

theorem index_of_mem (c : List Int) (a : Int) (h : a ∈ c) : ∃ i, i < c.length ∧ at' c i = a := by
  obtain ⟨i, hi, he⟩ := List.getElem_of_mem h
  exact ⟨i, hi, by rw [at'_eq_getElem c i hi, he]⟩

theorem at'_inj (c : Chain) (hnd : c.Nodup) (i j : Nat) (hi : i < c.length) (hj : j < c.length)
    (h : at' c i = at' c j) : i = j :=
  (List.getD_inj hi hj hnd).1 h

theorem map_at'_range (c : Chain) : (List.range c.length).map (at' c ·) = c := by
  apply List.ext_getElem (by simp)
  intro i h _
  simp only [List.length_map, List.length_range] at h
  simp [at'_eq_getElem c i h]

theorem at'_append_left (c d : Chain) (i : Nat) (h : i < c.length) : at' (c ++ d) i = at' c i := by
  rw [at', at', List.getD_eq_getElem?_getD, List.getD_eq_getElem?_getD, List.getElem?_append_left h]

theorem at'_append_last (c : Chain) (x : Int) : at' (c ++ [x]) c.length = x := by
  rw [at', List.getD_eq_getElem?_getD, List.getElem?_concat_length]; rfl

theorem at'_map {α : Type} (f : α → Int) (d : α) (hd : f d = 0) (c : List α) (i : Nat) :
    at' (c.map f) i = f (c.getD i d) := by
  rw [at', List.getD_eq_getElem?_getD, List.getD_eq_getElem?_getD, List.getElem?_map]
  cases c[i]? <;> simp [hd]

theorem at'_take (c : Chain) (n i : Nat) (h : i < n) : at' (c.take n) i = at' c i := by
  simp [at', h]

theorem take_succ_eq (c : Chain) (n : Nat) (h : n < c.length) : c.take (n+1) = c.take n ++ [at' c n] := by
  rw [List.take_succ_eq_append_getElem h, at'_eq_getElem c n h]

theorem at'_lt_of_pairwise (c : List Int) (h : c.Pairwise (· < ·)) (i j : Nat) (hij : i < j)
    (hj : j < c.length) : at' c i < at' c j := by
  rw [at'_eq_getElem c i (Nat.lt_trans hij hj), at'_eq_getElem c j hj]
  exact List.pairwise_iff_getElem.mp h i j _ hj hij

theorem lt_of_at'_lt (c : List Int) (hasc : c.Pairwise (· < ·)) (i k : Nat) (hi : i < c.length)
    (h : at' c i < at' c k) : i < k := by
  apply Nat.lt_of_le_of_ne
  · apply Nat.le_of_not_lt
    intro hki
    exact Int.lt_asymm h (at'_lt_of_pairwise c hasc k i hki hi)
  · rintro rfl
    exact Int.lt_irrefl _ h

/-- Two pointer scan as in Chain.Ops; state (l, r) with r encoded as r+1 = `rp` to stay in Nat. -/
def twoPtr (c : Chain) (t : Int) : (l rp : Nat) → List (Nat × Nat)
  | l, 0 => []
  | l, rp+1 =>
    if h : l ≤ rp then
      let s := at' c l + at' c rp
      if s = t then (l, rp) :: twoPtr c t (l+1) (rp+1)
      else if s < t then twoPtr c t (l+1) (rp+1)
      else twoPtr c t l rp
    else []
termination_by l rp => (rp + 1 - l) + rp
decreasing_by all_goals simp_wf <;> omega

def quad (c : Chain) (t : Int) (k : Nat) : List (Nat × Nat) :=
  (List.range k).flatMap fun i => ((List.range k).filter fun j => i ≤ j ∧ at' c i + at' c j = t).map fun j => (i, j)

def StrictAsc (c : Chain) (k : Nat) : Prop := ∀ i j, i < j → j < k → at' c i < at' c j

theorem StrictAsc.le {c : Chain} {k : Nat} (h : StrictAsc c k) {i j : Nat} (hij : i ≤ j) (hj : j < k) :
    at' c i ≤ at' c j := by
  rcases Nat.eq_or_lt_of_le hij with rfl | hlt
  · exact Int.le_refl _
  · exact Int.le_of_lt (h i j hlt hj)

/-- The scan from `(l, rp)` finds exactly the pairs in the triangle `l ≤ i ≤ j < rp` that sum to `t`.
    Each step discards one row or one column of the triangle, which monotonicity shows to hold no
    further pair: row `l` when `c[l] + c[rp-1] ≤ t`, column `rp-1` otherwise. -/
theorem twoPtr_mem (c : Chain) (t : Int) (k : Nat) (hasc : StrictAsc c k) (l rp : Nat) (hk : rp ≤ k)
    (i j : Nat) : (i, j) ∈ twoPtr c t l rp ↔ (l ≤ i ∧ i ≤ j ∧ j < rp ∧ at' c i + at' c j = t) := by
  induction l, rp using twoPtr.induct_unfolding c t with
  | case1 l => exact ⟨nofun, fun ⟨_, _, h3, _⟩ => absurd h3 (Nat.not_lt_zero _)⟩
  | case2 l rp h s hs ih =>
    -- `c[l] + c[rp] = t`: by strictness `(l, rp)` is the only pair of row `l`
    rw [List.mem_cons, ih hk, Prod.mk.injEq]
    constructor
    · rintro (⟨rfl, rfl⟩ | ⟨h1, h2, h3, h4⟩)
      · exact ⟨Nat.le_refl _, h, Nat.lt_succ_self _, hs⟩
      · exact ⟨Nat.le_of_succ_le h1, h2, h3, h4⟩
    · rintro ⟨h1, h2, h3, h4⟩
      rcases Nat.eq_or_lt_of_le h1 with rfl | h1
      · refine Or.inl ⟨rfl, ?_⟩
        rcases Nat.eq_or_lt_of_le (Nat.le_of_lt_succ h3) with e | hj
        · exact e
        · exact absurd (h4.trans hs.symm) (Int.ne_of_lt (Int.add_lt_add_left (hasc j rp hj hk) _))
      · exact Or.inr ⟨h1, h2, h3, h4⟩
  | case3 l rp h s hs hlt ih =>
    -- `c[l] + c[rp] < t`: row `l` holds no pair
    rw [ih hk]
    refine ⟨fun ⟨h1, h2⟩ => ⟨Nat.le_of_succ_le h1, h2⟩, fun ⟨h1, h2, h3, h4⟩ => ⟨?_, h2, h3, h4⟩⟩
    rcases Nat.eq_or_lt_of_le h1 with rfl | h1
    · have : t ≤ s := h4 ▸ Int.add_le_add_left (hasc.le (Nat.le_of_lt_succ h3) hk) (at' c l)
      exact absurd hlt (Int.not_lt.mpr this)
    · exact h1
  | case4 l rp h s hs hlt ih =>
    -- `c[l] + c[rp] > t`: column `rp` holds no pair
    rw [ih (Nat.le_of_succ_le hk)]
    refine ⟨fun ⟨h1, h2, h3, h4⟩ => ⟨h1, h2, Nat.lt_succ_of_lt h3, h4⟩,
      fun ⟨h1, h2, h3, h4⟩ => ⟨h1, h2, ?_, h4⟩⟩
    rcases Nat.eq_or_lt_of_le (Nat.le_of_lt_succ h3) with rfl | h3
    · have : s ≤ t := h4 ▸ Int.add_le_add_right (hasc.le h1 (Nat.lt_of_le_of_lt h2 hk)) (at' c j)
      exact absurd (Int.lt_iff_le_and_ne.2 ⟨this, hs⟩) hlt
    · exact h3
  | case5 l rp h =>
    exact ⟨nofun, fun ⟨h1, h2, h3, _⟩ =>
      absurd (Nat.le_trans h1 (Nat.le_trans h2 (Nat.le_of_lt_succ h3))) h⟩
end P
