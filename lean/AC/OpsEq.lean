import AC.Chain
/-! C02 prototype: the two code paths of `Chain.Ops` return the same *list*. -/
namespace P

def lexLt (a b : Nat × Nat) : Prop := a.1 < b.1 ∨ (a.1 = b.1 ∧ a.2 < b.2)

theorem lexLt_irrefl (a : Nat × Nat) : ¬ lexLt a a :=
  fun h => h.elim (Nat.lt_irrefl _) fun h => Nat.lt_irrefl _ h.2

theorem lexLt_trans {a b c : Nat × Nat} (h1 : lexLt a b) (h2 : lexLt b c) : lexLt a c := by
  rcases h1 with h1 | ⟨e1, h1⟩
  · exact Or.inl (h2.elim (Nat.lt_trans h1) fun h => h.1 ▸ h1)
  · rcases h2 with h2 | ⟨e2, h2⟩
    · exact Or.inl (e1 ▸ h2)
    · exact Or.inr ⟨e1.trans e2, Nat.lt_trans h1 h2⟩

theorem nodup_of_pairwise_lexLt {l : List (Nat × Nat)} (h : l.Pairwise lexLt) : l.Nodup :=
  List.Pairwise.imp (S := (· ≠ ·)) (fun {a _} hab (e : a = _) => lexLt_irrefl _ (e ▸ hab)) h

theorem eq_of_sorted_of_mem_iff (l1 l2 : List (Nat × Nat)) (h1 : l1.Pairwise lexLt)
    (h2 : l2.Pairwise lexLt) (h : ∀ x, x ∈ l1 ↔ x ∈ l2) : l1 = l2 :=
  List.Perm.eq_of_pairwise (fun _ _ _ _ hab hba => (lexLt_irrefl _ (lexLt_trans hab hba)).elim) h1 h2
    ((List.perm_ext_iff_of_nodup (nodup_of_pairwise_lexLt h1) (nodup_of_pairwise_lexLt h2)).2 h)

theorem quadOps_sorted (c : Chain) (k : Nat) : (quadOps c k).Pairwise lexLt := by
  unfold quadOps
  rw [List.pairwise_flatMap]
  constructor
  · intro i _
    rw [List.pairwise_map]
    have : ((List.range k).filter fun j => decide (i ≤ j) && (at' c i + at' c j == at' c k)).Pairwise (· < ·) :=
      List.Pairwise.sublist List.filter_sublist List.pairwise_lt_range
    exact this.imp (fun h => Or.inr ⟨rfl, h⟩)
  · have : (List.range k).Pairwise (· < ·) := List.pairwise_lt_range
    apply this.imp
    intro i i' hii a ha b hb
    obtain ⟨j, _, rfl⟩ := List.mem_map.mp ha
    obtain ⟨j', _, rfl⟩ := List.mem_map.mp hb
    exact Or.inl hii

/-- the two-pointer listing is in lexicographic order (first components strictly increase) -/
theorem twoPtr_sorted (c : Chain) (t : Int) : ∀ (n l rp : Nat), (rp + 1 - l) + rp ≤ n →
    (twoPtr c t l rp).Pairwise lexLt ∧ ∀ x ∈ twoPtr c t l rp, l ≤ x.1 := by
  intro n l rp hn
  clear hn n
  induction l, rp using twoPtr.induct_unfolding c t with
  | case1 l => simp
  | case2 l rp h s hs ih =>
    refine ⟨List.pairwise_cons.mpr ⟨fun x hx => Or.inl (ih.2 x hx), ih.1⟩, fun x hx => ?_⟩
    rcases List.mem_cons.mp hx with rfl | hx
    · exact Nat.le_refl _
    · exact Nat.le_of_succ_le (ih.2 x hx)
  | case3 l rp h s hs hlt ih => exact ⟨ih.1, fun x hx => Nat.le_of_succ_le (ih.2 x hx)⟩
  | case4 l rp h s hs hlt ih => exact ih
  | case5 l rp h => simp

/-- **`Chain.Ops` lists exactly the lexicographically ordered index pairs, on both paths** -/
theorem ops_eq_spec (c : Chain) (k : Nat) (hk : k < c.length) : ops c k = opsSpec c k := by
  apply eq_of_sorted_of_mem_iff
  · unfold ops
    split
    · exact (twoPtr_sorted c (at' c k) _ 0 k (Nat.le_refl _)).1
    · exact quadOps_sorted c k
  · exact quadOps_sorted c k
  · intro x
    obtain ⟨i, j⟩ := x
    rw [mem_ops c k i j hk]
    exact (mem_quadOps c k i j).symm

end P
