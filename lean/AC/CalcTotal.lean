import AC.CalcModel
/-! # C15: the calc machine halts only inside an operator application

`AC.Calc.evalWith ap` is a total function into `ok | err | halt e`.  A `halt e` outcome can only
come from an application `ap t a b = .error e` performed by `yard.apply`; for the model proper
(`applyE`) the only such application is a division whose second operand is zero. -/
namespace AC.Calc
open P.YP (Bop stop ipow opOfChar)

section machine
variable {ε : Type} (ap : Bop → Int → Int → Except ε Int)

/-! Each proof follows the defining equations of its function: the branches that return `ok` or `err`
    are vacuous, a recursive call is the induction hypothesis, and `halt e` is returned only where
    `ap t a b = .error e` has just been found. -/

theorem popForE_halt (o : Bop) (os : List Bop) (vs : List Int) (e : ε) :
    popForE ap o vs os = .halt e → ∃ t a b, ap t a b = .error e := by
  fun_induction popForE ap o vs os with
  | case1 | case2 | case5 => intro h; cases h
  | case3 _ _ _ _ _ _ _ _ ih => exact ih
  | case4 t _ _ b a _ _ he => intro h; cases h; exact ⟨t, a, b, he⟩

theorem finishE_halt (os : List Bop) (vs : List Int) (e : ε) :
    finishE ap vs os = .halt e → ∃ t a b, ap t a b = .error e := by
  fun_induction finishE ap vs os with
  | case1 | case2 | case5 => intro h; cases h
  | case3 _ _ _ _ _ _ _ ih => exact ih
  | case4 b a _ t _ _ he => intro h; cases h; exact ⟨t, a, b, he⟩

theorem evalLoop_halt (f : Nat) (ex : Bool) (vs : List Int) (os : List Bop) (s : List Char) (e : ε) :
    evalLoop ap f ex vs os s = .halt e → ∃ t a b, ap t a b = .error e := by
  -- the cases follow the clauses of `evalLoop`: 1 out of fuel, 2 end of the text, 3 a blank, 4 and 5 an operand is expected
  -- (no number, a number), 6 no operator, 7 to 9 an operator, with `popForE` giving `ok`, `err`, `halt`
  fun_induction evalLoop ap f ex vs os s with
  | case1 | case4 | case6 | case8 => intro h; cases h
  | case2 => exact finishE_halt ap _ _ e
  | case3 _ _ _ _ _ ih | case5 _ _ _ _ _ _ _ _ _ ih | case7 _ _ _ _ _ _ _ _ _ _ _ _ _ ih => exact ih
  | case9 _ _ vs os _ _ _ _ o _ _ hp => intro h; cases h; exact popForE_halt ap o os vs _ hp

theorem evalWith_halt (s : List Char) (e : ε) (h : evalWith ap s = .halt e) : ∃ t a b, ap t a b = .error e :=
  evalLoop_halt ap _ _ _ _ _ _ h
end machine

/-- `yard.apply` refuses exactly a division by zero -/
theorem applyE_error_iff (o : Bop) (x y : Int) (e : DivZero) :
    applyE o x y = .error e ↔ (o = .div ∧ y = 0) := by
  cases e
  cases o <;> simp [applyE, isDivisor]

/-- the outcome of `calc.Eval` is a value or an error for every string, and the error is "division
    by zero" only if the machine applied a division to a zero divisor -/
theorem eval_total (s : List Char) :
    ((∃ v, eval s = .ok v) ∨ eval s = .err ∨ eval s = Outcome.divzero) ∧
    (eval s = Outcome.divzero → ∃ x y : Int, y = 0 ∧ applyE .div x y = .error .divzero) := by
  constructor
  · cases h : eval s with
    | ok v => exact Or.inl ⟨v, rfl⟩
    | err => exact Or.inr (Or.inl rfl)
    | halt e => cases e; exact Or.inr (Or.inr rfl)
  · intro h
    obtain ⟨t, a, b, hap⟩ := evalWith_halt applyE s _ h
    obtain ⟨rfl, rfl⟩ := (applyE_error_iff t a b _).1 hap
    exact ⟨a, 0, rfl, hap⟩

end AC.Calc
