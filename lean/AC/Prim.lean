import AC.Sliding
/-! C01 prototype: the reduction `dict.primitive`. Vectors are functions here (the executable
    model uses lists; they agree pointwise). -/
namespace P.Prim
open P.Bits

abbrev Vec := Nat → Nat
def basis (i : Nat) : Vec := fun j => if j = i then 1 else 0
def addV (a b : Vec) : Vec := fun j => a j + b j
def lshV (a : Vec) (e : Nat) : Vec := fun j => a j * 2 ^ e
def zeroV : Vec := fun _ => 0
def dot (n : Nat) (v : Vec) (c : Nat → Nat) : Nat := ((List.range n).map (fun j => v j * c j)).sum

theorem dot_succ (n : Nat) (v : Vec) (c : Nat → Nat) : dot (n + 1) v c = dot n v c + v n * c n := by
  simp [dot, List.range_succ]

theorem dot_add (n : Nat) (a b : Vec) (c : Nat → Nat) : dot n (addV a b) c = dot n a c + dot n b c := by
  induction n with
  | zero => rfl
  | succ n ih => rw [dot_succ, dot_succ, dot_succ, ih, addV, Nat.add_mul, Nat.add_add_add_comm]

theorem dot_lsh (n : Nat) (a : Vec) (e : Nat) (c : Nat → Nat) : dot n (lshV a e) c = dot n a c * 2 ^ e := by
  induction n with
  | zero => simp [dot]
  | succ n ih => rw [dot_succ, dot_succ, ih, lshV, Nat.add_mul, Nat.mul_right_comm]

theorem dot_zero (n : Nat) (c : Nat → Nat) : dot n zeroV c = 0 := by
  induction n with
  | zero => rfl
  | succ n ih => rw [dot_succ, ih, zeroV, Nat.zero_mul]

theorem dot_basis (n i : Nat) (c : Nat → Nat) : dot n (basis i) c = if i < n then c i else 0 := by
  induction n with
  | zero => rfl
  | succ n ih =>
    rw [dot_succ, ih, basis]
    rcases Nat.lt_trichotomy i n with h | rfl | h
    · rw [if_pos h, if_neg (Nat.ne_of_gt h), Nat.zero_mul, Nat.add_zero, if_pos (Nat.lt_succ_of_lt h)]
    · rw [if_neg (Nat.lt_irrefl i), if_pos rfl, Nat.one_mul, Nat.zero_add, if_pos (Nat.lt_succ_self i)]
    · rw [if_neg (Nat.lt_asymm h), if_neg (Nat.ne_of_lt h), Nat.zero_mul, if_neg (Nat.not_lt.2 h)]

theorem dot_congr (n : Nat) (a b : Vec) (c : Nat → Nat) (h : ∀ j, j < n → a j = b j) : dot n a c = dot n b c := by
  induction n with
  | zero => rfl
  | succ n ih => rw [dot_succ, dot_succ, ih fun j hj => h j (Nat.lt_succ_of_lt hj), h n (Nat.lt_succ_self n)]

def bitsSet (m : Nat) : List Nat := (List.range (Nat.log2 m + 1)).filter (fun e => m.testBit e)

theorem sum_bits_below : ∀ (k m : Nat),
    (((List.range k).filter (fun e => m.testBit e)).map (fun e => 2 ^ e)).sum = m % 2 ^ k := by
  intro k
  induction k with
  | zero => intro m; simp [Nat.mod_one]
  | succ k ih =>
    intro m
    rw [List.range_succ, List.filter_append, List.map_append, List.sum_append, ih, mod_succ_of_bit]
    cases hb : m.testBit k <;> simp [hb]

theorem bits_sum (m : Nat) : ((bitsSet m).map (fun e => 2 ^ e)).sum = m := by
  rw [bitsSet, sum_bits_below, Nat.mod_eq_of_lt Nat.lt_log2_self]

theorem nodup_bounded_length : ∀ (n : Nat) (l : List Nat), l.Nodup → (∀ x ∈ l, x < n) → l.length ≤ n :=
  fun n _ hnd h => List.length_range (n := n) ▸ hnd.length_le_of_subset fun x hx => List.mem_range.2 (h x hx)

theorem exists_count_two (n : Nat) (l : List Nat) (hb : ∀ x ∈ l, x < n) (hl : n < l.length) :
    ∃ a, a < n ∧ 2 ≤ l.count a := by
  have hnd : ¬ l.Nodup := fun hnd => Nat.not_le_of_lt hl (nodup_bounded_length n l hnd hb)
  obtain ⟨a, ha⟩ : ∃ a, 2 ≤ l.count a := Classical.byContradiction fun hne =>
    hnd (List.nodup_iff_count.2 fun a => Nat.le_of_not_lt fun h => hne ⟨a, h⟩)
  exact ⟨a, hb a (List.count_pos_iff.1 (Nat.lt_of_lt_of_le Nat.two_pos ha)), ha⟩

/-! dependency bitsets (`Program.Dependencies`) -/
def depsStep (ds : List Nat) (op : Nat × Nat) : List Nat :=
  ds ++ [ds.getD op.1 0 ||| ds.getD op.2 0 ||| 2 ^ ds.length]
def depsL (p : List (Nat × Nat)) : List Nat := p.foldl depsStep [1]

def opAt (q : List (Nat × Nat)) (j : Nat) : Nat × Nat := q.getD (j - 1) (0, 0)

theorem getD_append_left' (l : List Nat) (x : Nat) (k : Nat) (h : k < l.length) : (l ++ [x]).getD k 0 = l.getD k 0 := by
  simp [List.getD_eq_getElem?_getD, List.getElem?_append_left h]
theorem getD_append_last' (l : List Nat) (x : Nat) : (l ++ [x]).getD l.length 0 = x := by
  simp [List.getD_eq_getElem?_getD]
theorem opAt_append_left (q : List (Nat × Nat)) (op : Nat × Nat) (j : Nat) (h1 : 1 ≤ j) (h : j ≤ q.length) :
    opAt (q ++ [op]) j = opAt q j := by
  unfold opAt
  simp [List.getD_eq_getElem?_getD, List.getElem?_append_left (Nat.sub_one_lt_of_le h1 h)]
theorem opAt_append_last (q : List (Nat × Nat)) (op : Nat × Nat) : opAt (q ++ [op]) (q.length + 1) = op := by
  unfold opAt; simp [List.getD_eq_getElem?_getD]

/-- a property of every row of a list still holds after one more row is appended -/
theorem rows_snoc {α} {l : List α} {x d : α} {R : Nat → α → Prop} (h : ∀ k, k < l.length → R k (l.getD k d))
    (hx : R l.length x) : ∀ k, k < (l ++ [x]).length → R k ((l ++ [x]).getD k d) := by
  intro k hk
  rw [List.length_append, List.length_singleton] at hk
  rw [List.getD_eq_getElem?_getD]
  by_cases hkl : k < l.length
  · rw [List.getElem?_append_left hkl, ← List.getD_eq_getElem?_getD]; exact h k hkl
  · obtain rfl : k = l.length := Nat.le_antisymm (Nat.le_of_lt_succ hk) (Nat.not_lt.1 hkl)
    rw [List.getElem?_concat_length]; exact hx

/-- what row `k` of the dependency table satisfies: it has bits `k` and `0`, none above `k`, and with every
    bit `j ≥ 1` the two operands of op `j` -/
structure DRow (q : List (Nat × Nat)) (k d : Nat) : Prop where
  self : d.testBit k = true
  zero : d.testBit 0 = true
  bound : ∀ j, d.testBit j = true → j ≤ k
  step : ∀ j, 1 ≤ j → d.testBit j = true → d.testBit (opAt q j).1 = true ∧ d.testBit (opAt q j).2 = true

def DGood (q : List (Nat × Nat)) (ds : List Nat) : Prop :=
  ds.length = q.length + 1 ∧ ∀ k, k < ds.length → DRow q k (ds.getD k 0)

namespace DRow

theorem snoc {q : List (Nat × Nat)} {k d : Nat} (op : Nat × Nat) (h : DRow q k d) (hk : k ≤ q.length) :
    DRow (q ++ [op]) k d :=
  ⟨h.self, h.zero, h.bound, fun j hj hb => by
    rw [opAt_append_left q op j hj (Nat.le_trans (h.bound j hb) hk)]; exact h.step j hj hb⟩

theorem join {q : List (Nat × Nat)} {op : Nat × Nat} {k d1 d2 : Nat} (h1 : DRow q op.1 d1) (h2 : DRow q op.2 d2)
    (b1 : op.1 < k) (b2 : op.2 < k) (hop : opAt q k = op) : DRow q k (d1 ||| d2 ||| 2 ^ k) := by
  have bit : ∀ j, (d1 ||| d2 ||| 2 ^ k).testBit j = (d1.testBit j || d2.testBit j || decide (k = j)) := by
    intro j; rw [Nat.testBit_or, Nat.testBit_or, Nat.testBit_two_pow]
  refine ⟨by rw [bit, decide_eq_true rfl, Bool.or_true], by rw [bit, h1.zero]; rfl, fun j hj => ?_, fun j hj1 hj => ?_⟩
  · simp only [bit, Bool.or_eq_true, decide_eq_true_eq] at hj
    rcases hj with (hj | hj) | hj
    · exact Nat.le_of_lt (Nat.lt_of_le_of_lt (h1.bound j hj) b1)
    · exact Nat.le_of_lt (Nat.lt_of_le_of_lt (h2.bound j hj) b2)
    · exact Nat.le_of_eq hj.symm
  · simp only [bit, Bool.or_eq_true, decide_eq_true_eq] at hj ⊢
    rcases hj with (hj | hj) | rfl
    · exact ⟨.inl (.inl (h1.step j hj1 hj).1), .inl (.inl (h1.step j hj1 hj).2)⟩
    · exact ⟨.inl (.inr (h2.step j hj1 hj).1), .inl (.inr (h2.step j hj1 hj).2)⟩
    · rw [hop]; exact ⟨.inl (.inl h1.self), .inl (.inr h2.self)⟩

end DRow

theorem dgood_nil : DGood [] [1] := by
  have h1 : ∀ j, (1 : Nat).testBit j = true → j = 0 := fun j hj =>
    (of_decide_eq_true ((Nat.testBit_two_pow (n := 0)).symm.trans hj)).symm
  exact ⟨rfl, rows_snoc (l := []) nofun
    ⟨rfl, rfl, fun j hj => Nat.le_of_eq (h1 j hj), fun j hj1 hj => absurd (h1 j hj) (Nat.ne_of_gt hj1)⟩⟩

theorem dgood_snoc (q : List (Nat × Nat)) (ds : List Nat) (op : Nat × Nat) (h : DGood q ds)
    (h1 : op.1 ≤ q.length) (h2 : op.2 ≤ q.length) : DGood (q ++ [op]) (depsStep ds op) := by
  obtain ⟨hl, hr⟩ := h
  refine ⟨by rw [depsStep, List.length_append, List.length_append, hl]; rfl,
    rows_snoc (fun k hk => (hr k hk).snoc op (Nat.le_of_lt_succ (Nat.lt_of_lt_of_eq hk hl))) ?_⟩
  rw [hl]
  exact DRow.join ((hr _ (hl ▸ Nat.lt_succ_of_le h1)).snoc op h1) ((hr _ (hl ▸ Nat.lt_succ_of_le h2)).snoc op h2)
    (Nat.lt_succ_of_le h1) (Nat.lt_succ_of_le h2) (opAt_append_last q op)

/-- in-range programs: op `k` (0-based) reads elements `≤ k` -/
def InRangeP : List (Nat × Nat) → Nat → Prop
  | [], _ => True
  | o :: r, k => o.1 ≤ k ∧ o.2 ≤ k ∧ InRangeP r (k + 1)

/-- a property of (program, bitsets) that holds at the start and is kept when an in-range op is
    appended holds of `depsL` -/
theorem depsL_induct {Inv : List (Nat × Nat) → List Nat → Prop} (nil : Inv [] [1])
    (snoc : ∀ q ds op, Inv q ds → op.1 ≤ q.length → op.2 ≤ q.length → Inv (q ++ [op]) (depsStep ds op))
    (p : List (Nat × Nat)) (h : InRangeP p 0) : Inv p (depsL p) := by
  have fold : ∀ (r q : List (Nat × Nat)) (ds : List Nat), Inv q ds → InRangeP r q.length →
      Inv (q ++ r) (r.foldl depsStep ds) := by
    intro r
    induction r with
    | nil => intro q ds h _; rw [List.append_nil]; exact h
    | cons op r ih =>
      intro q ds h hr
      rw [List.append_cons]
      exact ih (q ++ [op]) (depsStep ds op) (snoc q ds op h hr.1 hr.2.1) (by rw [List.length_append]; exact hr.2.2)
  exact fold p [] [1] nil h

theorem dgood_row (p : List (Nat × Nat)) (h : InRangeP p 0) (k : Nat) (hk : k ≤ p.length) :
    DRow p k ((depsL p).getD k 0) := by
  obtain ⟨hl, hr⟩ : DGood p (depsL p) := depsL_induct dgood_nil dgood_snoc p h
  exact hr k (hl ▸ Nat.lt_succ_of_le hk)

def reads (p terms : List (Nat × Nat)) (i : Nat) : Nat :=
  p.countP (fun o => o.1 == i || o.2 == i) + terms.countP (fun t => t.1 == i)

def flag (p terms : List (Nat × Nat)) (i : Nat) : Bool :=
  (List.range (p.length + 1)).any (fun k => decide (2 ≤ reads p terms k) && ((depsL p).getD k 0).testBit i)

theorem flag_iff (p terms : List (Nat × Nat)) (i : Nat) :
    flag p terms i = true ↔ ∃ k, k ≤ p.length ∧ 2 ≤ reads p terms k ∧ ((depsL p).getD k 0).testBit i = true := by
  simp only [flag, List.any_eq_true, List.mem_range, Bool.and_eq_true, decide_eq_true_eq, Nat.lt_succ_iff]

theorem flag_closed (p terms : List (Nat × Nat)) (hp : InRangeP p 0) (j : Nat) (hj : 1 ≤ j)
    (h : flag p terms j = true) : flag p terms (opAt p j).1 = true ∧ flag p terms (opAt p j).2 = true := by
  obtain ⟨k, hk, hr, hb⟩ := (flag_iff p terms j).1 h
  obtain ⟨s1, s2⟩ := (dgood_row p hp k hk).step j hj hb
  exact ⟨(flag_iff _ _ _).2 ⟨k, hk, hr, s1⟩, (flag_iff _ _ _).2 ⟨k, hk, hr, s2⟩⟩

theorem flag_bound (p terms : List (Nat × Nat)) (hp : InRangeP p 0) (j : Nat) (h : flag p terms j = true) :
    j ≤ p.length := by
  obtain ⟨k, hk, _, hb⟩ := (flag_iff p terms j).1 h
  exact Nat.le_trans ((dgood_row p hp k hk).bound j hb) hk

theorem flag_zero (p terms : List (Nat × Nat)) (hp : InRangeP p 0) (k : Nat) (hk : k ≤ p.length)
    (hr : 2 ≤ reads p terms k) : flag p terms 0 = true :=
  (flag_iff _ _ _).2 ⟨k, hk, hr, (dgood_row p hp k hk).zero⟩

theorem flag_self (p terms : List (Nat × Nat)) (hp : InRangeP p 0) (k : Nat) (hk : k ≤ p.length)
    (hr : 2 ≤ reads p terms k) : flag p terms k = true :=
  (flag_iff _ _ _).2 ⟨k, hk, hr, (dgood_row p hp k hk).self⟩

theorem inRangeP_fst : ∀ (p : List (Nat × Nat)) (k : Nat), InRangeP p k → ∀ o ∈ p, o.1 < k + p.length := by
  intro p
  induction p with
  | nil => intro k _ o h; cases h
  | cons a r ih =>
    intro k h o ho
    rcases List.mem_cons.mp ho with rfl | ho
    · exact Nat.lt_of_le_of_lt h.1 (Nat.lt_add_of_pos_right (Nat.succ_pos _))
    · exact Nat.lt_of_lt_of_eq (ih (k+1) h.2.2 o ho) (Nat.succ_add k r.length)

/-- `p.length + terms.length ≥ p.length + 2` reads fall on `p.length + 1` positions -/
theorem pigeon (p terms : List (Nat × Nat)) (hp : InRangeP p 0) (ht : 2 ≤ terms.length)
    (hti : ∀ t ∈ terms, t.1 ≤ p.length) : ∃ k, k ≤ p.length ∧ 2 ≤ reads p terms k := by
  have hb : ∀ x ∈ p.map (·.1) ++ terms.map (·.1), x < p.length + 1 := by
    intro x hx
    rcases List.mem_append.mp hx with h | h
    · obtain ⟨o, ho, rfl⟩ := List.mem_map.mp h
      exact Nat.lt_succ_of_lt (Nat.zero_add p.length ▸ inRangeP_fst p 0 hp o ho)
    · obtain ⟨t, ht', rfl⟩ := List.mem_map.mp h
      exact Nat.lt_succ_of_le (hti t ht')
  obtain ⟨a, han, ha⟩ := exists_count_two _ _ hb
    (by rw [List.length_append, List.length_map, List.length_map]; exact Nat.add_le_add_left ht _)
  refine ⟨a, Nat.le_of_lt_succ han, ?_⟩
  have h1 : (p.map (·.1)).count a ≤ p.countP (fun o => o.1 == a || o.2 == a) := by
    rw [List.count_eq_countP, List.countP_map]
    exact List.countP_mono_left fun o _ h => by simp at h ⊢; exact Or.inl h
  have h2 : (terms.map (·.1)).count a = terms.countP (fun t => t.1 == a) := by
    rw [List.count_eq_countP, List.countP_map]; rfl
  rw [List.count_append, h2] at ha
  exact Nat.le_trans ha (Nat.add_le_add_right h1 _)

/-! every chain element as a combination of primitive elements -/
def vcStep (fl : Nat → Bool) (vs : List Vec) (op : Nat × Nat) : List Vec :=
  vs ++ [if fl vs.length then basis vs.length else addV (vs.getD op.1 zeroV) (vs.getD op.2 zeroV)]
def vcL (fl : Nat → Bool) (p : List (Nat × Nat)) : List Vec := p.foldl (vcStep fl) [basis 0]

/-- what row `k` of `vc` satisfies: it evaluates to `cv k`, and is supported on flagged positions (or 0)
    no later than `k` -/
def VRow (n : Nat) (fl : Nat → Bool) (cv : Nat → Nat) (k : Nat) (v : Vec) : Prop :=
  dot n v cv = cv k ∧ ∀ j, v j ≠ 0 → (fl j = true ∨ j = 0) ∧ j ≤ k

def VGood (n : Nat) (fl : Nat → Bool) (cv : Nat → Nat) (m : Nat) (vs : List Vec) : Prop :=
  vs.length = m + 1 ∧ ∀ k, k < vs.length → VRow n fl cv k (vs.getD k zeroV)

theorem vrow_basis {n : Nat} {fl : Nat → Bool} {cv : Nat → Nat} {k : Nat} (hk : k < n) (hf : fl k = true ∨ k = 0) :
    VRow n fl cv k (basis k) := by
  refine ⟨(dot_basis n k cv).trans (if_pos hk), fun j hj => ?_⟩
  obtain rfl : j = k := Classical.byContradiction fun h => hj (if_neg h)
  exact ⟨hf, Nat.le_refl _⟩

theorem vrow_add {n : Nat} {fl : Nat → Bool} {cv : Nat → Nat} {k k1 k2 : Nat} {v1 v2 : Vec}
    (h1 : VRow n fl cv k1 v1) (h2 : VRow n fl cv k2 v2) (b1 : k1 ≤ k) (b2 : k2 ≤ k) (hev : cv k1 + cv k2 = cv k) :
    VRow n fl cv k (addV v1 v2) := by
  refine ⟨by rw [dot_add, h1.1, h2.1, hev], fun j hj => ?_⟩
  by_cases hne : v1 j = 0
  · have hne2 : v2 j ≠ 0 := fun h => hj (by rw [addV, hne, h])
    exact ⟨(h2.2 j hne2).1, Nat.le_trans (h2.2 j hne2).2 b2⟩
  · exact ⟨(h1.2 j hne).1, Nat.le_trans (h1.2 j hne).2 b1⟩

theorem vgood_nil (n : Nat) (hn : 0 < n) (fl : Nat → Bool) (cv : Nat → Nat) : VGood n fl cv 0 [basis 0] :=
  ⟨rfl, rows_snoc (l := []) nofun (vrow_basis hn (.inr rfl))⟩

theorem vgood_snoc (n : Nat) (fl : Nat → Bool) (cv : Nat → Nat) (m : Nat) (vs : List Vec)
    (op : Nat × Nat) (h : VGood n fl cv m vs) (h1 : op.1 ≤ m) (h2 : op.2 ≤ m)
    (hn : m + 1 < n) (hev : cv op.1 + cv op.2 = cv (m + 1)) :
    VGood n fl cv (m + 1) (vcStep fl vs op) := by
  obtain ⟨hl, hr⟩ := h
  refine ⟨by rw [vcStep, List.length_append, hl]; rfl, rows_snoc hr ?_⟩
  rw [hl]
  split
  · next hfl => exact vrow_basis hn (.inl hfl)
  · exact vrow_add (hr op.1 (hl ▸ Nat.lt_succ_of_le h1)) (hr op.2 (hl ▸ Nat.lt_succ_of_le h2))
      (Nat.le_succ_of_le h1) (Nat.le_succ_of_le h2) hev

/-- the program evaluates to the values `cv`: op `k` reads two earlier positions summing to `cv (k+1)` -/
def EvalsTo (cv : Nat → Nat) : List (Nat × Nat) → Nat → Prop
  | [], _ => True
  | o :: r, k => o.1 ≤ k ∧ o.2 ≤ k ∧ cv o.1 + cv o.2 = cv (k + 1) ∧ EvalsTo cv r (k + 1)

theorem evalsTo_inRange (cv : Nat → Nat) : ∀ (p : List (Nat × Nat)) (k : Nat), EvalsTo cv p k → InRangeP p k := by
  intro p
  induction p with
  | nil => intro k _; trivial
  | cons o r ih => intro k h; exact ⟨h.1, h.2.1, ih (k+1) h.2.2.2⟩

theorem evalsTo_iff (cv : Nat → Nat) (p : List (Nat × Nat)) : ∀ k, EvalsTo cv p k ↔
    ∀ j o, p[j]? = some o → o.1 ≤ k + j ∧ o.2 ≤ k + j ∧ cv o.1 + cv o.2 = cv (k + j + 1) := by
  induction p with
  | nil => exact fun _ => ⟨fun _ _ _ h => (nomatch h), fun _ => trivial⟩
  | cons a r ih =>
    intro k
    constructor
    · intro ⟨a1, a2, a3, h⟩ j o ho
      cases j with
      | zero => obtain rfl := Option.some.inj ho; exact ⟨a1, a2, a3⟩
      | succ j => have := (ih (k + 1)).1 h j o ho; rw [Nat.add_right_comm k 1 j] at this; exact this
    · intro h
      refine ⟨(h 0 a rfl).1, (h 0 a rfl).2.1, (h 0 a rfl).2.2, (ih (k + 1)).2 fun j o ho => ?_⟩
      rw [Nat.add_right_comm k 1 j]
      exact h (j + 1) o ho

theorem evalsTo_opAt (cv : Nat → Nat) (p : List (Nat × Nat)) (he : EvalsTo cv p 0) :
    ∀ j, 1 ≤ j → j ≤ p.length →
      (opAt p j).1 < j ∧ (opAt p j).2 < j ∧ cv (opAt p j).1 + cv (opAt p j).2 = cv j
  | j + 1, _, hj => by
    have ho : p[j]? = some (opAt p (j + 1)) := by
      rw [opAt, List.getD_eq_getElem?_getD, Nat.add_sub_cancel, List.getElem?_eq_getElem hj]; rfl
    obtain ⟨b1, b2, hs⟩ := (evalsTo_iff cv p 0).1 he j _ ho
    rw [Nat.zero_add] at b1 b2 hs
    exact ⟨Nat.lt_succ_of_le b1, Nat.lt_succ_of_le b2, hs⟩

theorem vgood_foldl (n : Nat) (fl : Nat → Bool) (cv : Nat → Nat) : ∀ (r : List (Nat × Nat)) (m : Nat) (vs : List Vec),
    VGood n fl cv m vs → EvalsTo cv r m → m + r.length < n →
    VGood n fl cv (m + r.length) (r.foldl (vcStep fl) vs) := by
  intro r
  induction r with
  | nil => intro m vs h _ _; exact h
  | cons op r ih =>
    intro m vs h he hn
    rw [List.length_cons] at hn ⊢
    rw [← Nat.add_assoc, Nat.add_right_comm] at hn ⊢
    exact ih (m + 1) (vcStep fl vs op) (vgood_snoc n fl cv m vs op h he.1 he.2.1 (Nat.lt_of_le_of_lt (Nat.le_add_right _ _) hn) he.2.2.1) he.2.2.2 hn

theorem vgood_row (fl : Nat → Bool) (cv : Nat → Nat) (p : List (Nat × Nat)) (he : EvalsTo cv p 0) (k : Nat)
    (hk : k ≤ p.length) : VRow (p.length + 1) fl cv k ((vcL fl p).getD k zeroV) := by
  obtain ⟨hl, hr⟩ := vgood_foldl (p.length + 1) fl cv p 0 [basis 0] (vgood_nil _ (Nat.succ_pos _) fl cv) he
    (Nat.zero_add _ ▸ Nat.lt_succ_self _)
  exact hr k (by rw [hl, Nat.zero_add]; exact Nat.lt_succ_of_le hk)

/-! the target as a combination, the rebuilt sum, the pruned chain -/
def vTot (vs : List Vec) (terms : List (Nat × Nat)) : Vec :=
  terms.foldl (fun acc t => addV acc (lshV (vs.getD t.1 zeroV) t.2)) zeroV

theorem vTot_foldl (n : Nat) (cv : Nat → Nat) (vs : List Vec) : ∀ (terms : List (Nat × Nat)) (acc : Vec),
    (∀ t ∈ terms, dot n (vs.getD t.1 zeroV) cv = cv t.1) →
    dot n (terms.foldl (fun acc t => addV acc (lshV (vs.getD t.1 zeroV) t.2)) acc) cv
      = dot n acc cv + (terms.map (fun t => cv t.1 * 2 ^ t.2)).sum := by
  intro terms
  induction terms with
  | nil => intro acc _; rfl
  | cons t r ih =>
    intro acc h
    rw [List.foldl_cons, List.map_cons, List.sum_cons, ih _ (fun t' ht' => h t' (List.mem_cons_of_mem _ ht')),
      dot_add, dot_lsh, h t List.mem_cons_self, Nat.add_assoc]

theorem vTot_supp (vs : List Vec) : ∀ (terms : List (Nat × Nat)) (acc : Vec) (j : Nat),
    (terms.foldl (fun acc t => addV acc (lshV (vs.getD t.1 zeroV) t.2)) acc) j ≠ 0 →
    acc j ≠ 0 ∨ ∃ t ∈ terms, (vs.getD t.1 zeroV) j ≠ 0 := by
  intro terms
  induction terms with
  | nil => intro acc j h; exact Or.inl h
  | cons t r ih =>
    intro acc j h
    rcases ih _ j h with h1 | ⟨t', ht', h2⟩
    · by_cases ha : acc j = 0
      · refine .inr ⟨t, List.mem_cons_self, fun hz => h1 ?_⟩
        simp only [addV, lshV, ha, hz, Nat.zero_mul]
      · exact Or.inl ha
    · exact Or.inr ⟨t', List.mem_cons_of_mem _ ht', h2⟩

def outTerms (n : Nat) (cv : Nat → Nat) (v : Vec) : List (Nat × Nat) :=
  (List.range n).flatMap (fun i => (bitsSet (v i)).map (fun e => (cv i, e)))
def valueT (ts : List (Nat × Nat)) : Nat := (ts.map (fun t => t.1 * 2 ^ t.2)).sum

theorem sum_map_mul_left {α} (l : List α) (f : α → Nat) (k : Nat) :
    (l.map (fun x => k * f x)).sum = k * (l.map f).sum := by
  induction l with
  | nil => rfl
  | cons a r ih => simp only [List.map_cons, List.sum_cons, ih, Nat.mul_add]

theorem valueT_out (n : Nat) (cv : Nat → Nat) (v : Vec) : valueT (outTerms n cv v) = dot n v cv := by
  induction n with
  | zero => rfl
  | succ n ih =>
    have hb : valueT ((bitsSet (v n)).map fun e => (cv n, e)) = v n * cv n := by
      have := sum_map_mul_left (bitsSet (v n)) (fun e => 2 ^ e) (cv n)
      rw [bits_sum, Nat.mul_comm] at this
      rw [valueT, List.map_map]; exact this
    rw [dot_succ, ← ih, ← hb]
    simp [outTerms, valueT, List.range_succ]

theorem mem_out (n : Nat) (cv : Nat → Nat) (v : Vec) (t : Nat × Nat) (h : t ∈ outTerms n cv v) :
    ∃ i, i < n ∧ t.1 = cv i ∧ v i ≠ 0 := by
  obtain ⟨i, hi, hm⟩ := List.mem_flatMap.mp h
  obtain ⟨e, he, rfl⟩ := List.mem_map.mp hm
  refine ⟨i, List.mem_range.1 hi, rfl, fun hz => ?_⟩
  rw [hz] at he
  simp [bitsSet] at he

/-- **`primitive` is correct**: the rebuilt sum has the same value and uses only elements of the
    pruned chain, which contains 1 and is closed under its own chosen operations. -/
theorem primitive_ok (cv : Nat → Nat) (p terms : List (Nat × Nat)) (he : EvalsTo cv p 0) (h0 : cv 0 = 1)
    (ht : 2 ≤ terms.length) (hti : ∀ t ∈ terms, t.1 ≤ p.length) :
    let n := p.length + 1
    let fl := flag p terms
    let out := outTerms n cv (vTot (vcL fl p) terms)
    let pruned := ((List.range n).filter fl).map cv
    valueT out = (terms.map (fun t => cv t.1 * 2 ^ t.2)).sum ∧
    (∀ t ∈ out, t.1 ∈ pruned) ∧
    (1 ∈ pruned) ∧ (∀ x ∈ pruned, x = 1 ∨ ∃ a ∈ pruned, ∃ b ∈ pruned, a + b = x) := by
  intro n fl out pruned
  have hp := evalsTo_inRange cv p 0 he
  have hv := vgood_row fl cv p he
  -- some position is read twice, so position 0 is flagged
  obtain ⟨k0, hk0, hr0⟩ := pigeon p terms hp ht hti
  have hfl0 : fl 0 = true := flag_zero p terms hp k0 hk0 hr0
  have hmemP : ∀ i, i ≤ p.length → fl i = true → cv i ∈ pruned := fun i hi hf =>
    List.mem_map.2 ⟨i, List.mem_filter.2 ⟨List.mem_range.2 (Nat.lt_succ_of_le hi), hf⟩, rfl⟩
  refine ⟨?_, fun t htm => ?_, h0 ▸ hmemP 0 (Nat.zero_le _) hfl0, fun x hx => ?_⟩
  · show valueT (outTerms n cv (vTot (vcL fl p) terms)) = _
    rw [valueT_out, vTot, vTot_foldl n cv (vcL fl p) terms zeroV (fun t ht' => (hv t.1 (hti t ht')).1), dot_zero,
      Nat.zero_add]
  · obtain ⟨i, hi, hti', hvi⟩ := mem_out n cv _ t htm
    rcases vTot_supp (vcL fl p) terms zeroV i hvi with h | ⟨t', ht', hne⟩
    · exact absurd rfl h
    · obtain ⟨hfi, hib⟩ := (hv t'.1 (hti t' ht')).2 i hne
      have : fl i = true := hfi.elim id fun h => h ▸ hfl0
      exact hti' ▸ hmemP i (Nat.le_trans hib (hti t' ht')) this
  · obtain ⟨j, hj, rfl⟩ := List.mem_map.mp hx
    obtain ⟨hjn, hfj⟩ := List.mem_filter.mp hj
    have hjn := Nat.le_of_lt_succ (List.mem_range.1 hjn)
    by_cases hj0 : j = 0
    · exact .inl (hj0 ▸ h0)
    · have hj1 := Nat.pos_of_ne_zero hj0
      obtain ⟨f1, f2⟩ := flag_closed p terms hp j hj1 hfj
      obtain ⟨b1, b2, hsum⟩ := evalsTo_opAt cv p he j hj1 hjn
      exact .inr ⟨_, hmemP _ (Nat.le_trans (Nat.le_of_lt b1) hjn) f1, _,
        hmemP _ (Nat.le_trans (Nat.le_of_lt b2) hjn) f2, hsum⟩

end P.Prim
