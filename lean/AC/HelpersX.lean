import AC.Bits
import AC.Helpers
import AC.Merge
/-! C19: remaining models of internal/bigint, internal/bigints, internal/bigvector (core Lean only)
    and their lemmas. -/
namespace P.HX
open P.Bits P.Helpers

/-! ## bit length, Mask / Extract on `Int` (what Go does out of range too) -/

/-- `big.Int.BitLen` of a natural -/
def bitLen (x : Nat) : Nat := if x = 0 then 0 else Nat.log2 x + 1

/-- `bigint.Mask`: `Pow2(h) - Pow2(l)`, negative when `l > h` -/
def maskI (l h : Nat) : Int := (2 : Int) ^ h - (2 : Int) ^ l

/-- `big.Int.And`: two's-complement semantics by sign cases, as math/big implements it -/
def landI : Int → Int → Int
  | Int.ofNat a, Int.ofNat b => Int.ofNat (a &&& b)
  | Int.ofNat a, Int.negSucc b => Int.ofNat (a ^^^ (a &&& b))
  | Int.negSucc a, Int.ofNat b => Int.ofNat (b ^^^ (b &&& a))
  | Int.negSucc a, Int.negSucc b => Int.negSucc (a ||| b)

/-- `bigint.Extract`: `(Mask(l,h) And x) Rsh l` with math/big's two's-complement `And` and arithmetic `Rsh` -/
def extractI (x : Int) (l h : Nat) : Int := (landI (maskI l h) x) >>> l

theorem bitLen_spec (x : Nat) : x < 2 ^ bitLen x ∧ (x ≠ 0 → 2 ^ (bitLen x - 1) ≤ x) := by
  unfold bitLen
  by_cases h : x = 0
  · simp [h]
  · simp only [h, if_false]
    exact ⟨Nat.lt_log2_self, fun _ => by simpa using Nat.log2_self_le h⟩

theorem bitLen_two_pow (k : Nat) : bitLen (2 ^ k) = k + 1 := by
  unfold bitLen
  simp [Nat.log2_two_pow]

theorem maskI_eq (l h : Nat) (hlh : l ≤ h) : maskI l h = ((mask l h : Nat) : Int) := by
  unfold maskI mask
  have := Nat.pow_le_pow_right (n := 2) (by omega) hlh
  rw [Int.ofNat_sub this]
  simp

theorem extractI_eq (x l h : Nat) (hlh : l ≤ h) : extractI (x : Int) l h = ((extract x l h : Nat) : Int) := by
  unfold extractI extract
  rw [maskI_eq l h hlh]
  rfl

/-- `bigint.IsPow2` -/
def isPow2 (x : Int) : Bool :=
  let e := bitLen x.natAbs
  if e = 0 then false else x == ((2 ^ (e - 1) : Nat) : Int)

theorem isPow2_iff (x : Int) : isPow2 x = true ↔ ∃ k : Nat, x = (2 : Int) ^ k := by
  unfold isPow2
  dsimp only
  constructor
  · intro h
    by_cases he : bitLen x.natAbs = 0
    · simp [he] at h
    · simp only [he, if_false, beq_iff_eq] at h
      exact ⟨bitLen x.natAbs - 1, h.trans (Int.natCast_pow 2 _)⟩
  · rintro ⟨k, rfl⟩
    have hn : ((2 : Int) ^ k).natAbs = 2 ^ k := by
      rw [Int.natAbs_pow]; rfl
    rw [hn, bitLen_two_pow]
    simp

/-- the loop of `bigint.Pow2UpTo`: `for p <= x { append p; p <<= 1 }` -/
def pow2Loop (x : Int) (p : Nat) (hp : 0 < p) : List Nat :=
  if (p : Int) ≤ x then p :: pow2Loop x (2 * p) (by omega) else []
termination_by (x + 1 - p).toNat
decreasing_by omega

/-- `bigint.Pow2UpTo` -/
def pow2UpTo (x : Int) : List Nat := pow2Loop x 1 (by omega)

theorem pow2Loop_of_not_le (x : Int) (p : Nat) (hp : 0 < p) (h : ¬ (p : Int) ≤ x) :
    pow2Loop x p hp = [] := by
  rw [pow2Loop, if_neg h]

theorem pow2Loop_of_le (x : Int) (p : Nat) (hp : 0 < p) (h : (p : Int) ≤ x) :
    pow2Loop x p hp = p :: pow2Loop x (2 * p) (Nat.mul_pos (by decide) hp) := by
  rw [pow2Loop, if_pos h]

/-- from `2 ^ j` the loop lists the powers up to the one that brackets `x`; by induction on the
    number `d` of powers still to come -/
theorem pow2Loop_two_pow (x k : Nat) (hlo : 2 ^ k ≤ x) (hhi : x < 2 ^ (k + 1)) :
    ∀ (d j p : Nat) (hp : 0 < p), p = 2 ^ j → j + d = k + 1 →
      pow2Loop x p hp = (List.range' j d).map (2 ^ ·) := by
  intro d
  induction d with
  | zero =>
    intro j p hp hpj hj
    obtain rfl : j = k + 1 := hj
    rw [pow2Loop_of_not_le x p hp (by rw [hpj]; exact Int.not_le.mpr (Int.ofNat_lt.mpr hhi))]
    rfl
  | succ d ih =>
    intro j p hp hpj hj
    have hjk : j ≤ k :=
      Nat.le_of_lt_succ (Nat.lt_of_lt_of_eq (Nat.lt_add_of_pos_right (Nat.succ_pos d)) hj)
    have hle : p ≤ x := hpj ▸ Nat.le_trans (Nat.pow_le_pow_right (by decide) hjk) hlo
    rw [pow2Loop_of_le x p hp (Int.ofNat_le.mpr hle), List.range'_succ, List.map_cons,
      ih (j + 1) (2 * p) _ (by rw [hpj, Nat.pow_succ'])
        (by rw [← hj, Nat.add_right_comm, Nat.add_assoc]), hpj]

theorem pow2UpTo_nonpos (x : Int) (h : x ≤ 0) : pow2UpTo x = [] :=
  pow2Loop_of_not_le x 1 _ (Int.not_le.mpr (Int.lt_of_le_of_lt h (by decide)))

theorem pow2UpTo_spec (x : Nat) (hx : 1 ≤ x) :
    ∃ k, pow2UpTo x = (List.range (k + 1)).map (2 ^ ·) ∧ 2 ^ k ≤ x ∧ x < 2 ^ (k + 1) := by
  have hlo := Nat.log2_self_le (Nat.ne_of_gt hx)
  have hhi := @Nat.lt_log2_self x
  refine ⟨x.log2, ?_, hlo, hhi⟩
  rw [List.range_eq_range']
  exact pow2Loop_two_pow x _ hlo hhi _ 0 1 _ rfl (Nat.zero_add _)

/-- `bigint.BitsSet` -/
def bitsSet (x : Nat) : List Nat := (List.range (bitLen x)).filter (fun i => x.testBit i)

theorem mem_bitsSet (x i : Nat) : i ∈ bitsSet x ↔ x.testBit i = true := by
  unfold bitsSet
  rw [List.mem_filter, List.mem_range, and_iff_right_iff_imp]
  -- a set bit `i` means `2 ^ i ≤ x < 2 ^ bitLen x`
  exact fun h => (Nat.pow_lt_pow_iff_right (by decide)).1
    (Nat.lt_of_le_of_lt (Nat.ge_two_pow_of_testBit h) (bitLen_spec x).1)

theorem pairwise_bitsSet (x : Nat) : (bitsSet x).Pairwise (· < ·) := by
  unfold bitsSet
  exact List.Pairwise.filter _ List.pairwise_lt_range

/-- `bigint.MinMax` -/
def minMax (x y : Int) : Int × Int := if x < y then (x, y) else (y, x)

theorem minMax_spec (x y : Int) : (minMax x y).1 = min x y ∧ (minMax x y).2 = max x y := by
  by_cases h : x < y
  · rw [minMax, if_pos h]
    exact ⟨(Int.min_eq_left (Int.le_of_lt h)).symm, (Int.max_eq_right (Int.le_of_lt h)).symm⟩
  · rw [minMax, if_neg h]
    exact ⟨(Int.min_eq_right (Int.not_lt.mp h)).symm, (Int.max_eq_left (Int.not_lt.mp h)).symm⟩

/-- `bigint.Uint64s`; `none` = the Go loop never terminates (`Rsh` of a negative number never reaches 0) -/
def uint64s (x : Int) : Option (List Nat) :=
  if x < 0 then none else some (digitsLE (2 ^ 64) (by decide) x.toNat)

/-- `bigint.BytesLittleEndian`: bytes of the absolute value -/
def bytesLE (x : Int) : List Nat := digitsLE 256 (by decide) x.natAbs

/-- digit value as in math/big's scanner for bases ≤ 36 -/
def digitVal (c : Char) : Option Nat :=
  if '0' ≤ c ∧ c ≤ '9' then some (c.toNat - 48)
  else if 'a' ≤ c ∧ c ≤ 'z' then some (c.toNat - 97 + 10)
  else if 'A' ≤ c ∧ c ≤ 'Z' then some (c.toNat - 65 + 10)
  else none

/-- scan digits of base `b` to the end of input (anything else: failure) -/
def scanDigits (b : Nat) : List Char → Nat → Option Nat
  | [], acc => some acc
  | c :: r, acc =>
    match digitVal c with
    | some d => if d < b then scanDigits b r (acc * b + d) else none
    | none => none

/-- `big.Int.SetString(s, b)` for an explicit base `2 ≤ b ≤ 36`: optional single sign, at least one digit,
    nothing else; `none` = `(nil, false)` -/
def setString (b : Nat) (s : List Char) : Option Int :=
  match s with
  | '+' :: r => if r.isEmpty then none else (scanDigits b r 0).map (fun v => Int.ofNat v)
  | '-' :: r => if r.isEmpty then none else (scanDigits b r 0).map (fun v => -Int.ofNat v)
  | r => if r.isEmpty then none else (scanDigits b r 0).map (fun v => Int.ofNat v)

/-- `stripliteral`: remove every underscore -/
def stripLit (s : List Char) : List Char := s.filter (· != '_')

def hex (s : List Char) : Option Int := setString 16 (stripLit s)
def binary (s : List Char) : Option Int := setString 2 (stripLit s)

/-- big-endian positional value -/
def valBE (b : Nat) : List Nat → Nat
  | [] => 0
  | d :: r => d * b ^ r.length + valBE b r

theorem scanDigits_spec (b : Nat) : ∀ (cs : List Char) (ds : List Nat) (acc : Nat),
    cs.map digitVal = ds.map some → (∀ d ∈ ds, d < b) →
    scanDigits b cs acc = some (acc * b ^ ds.length + valBE b ds) := by
  intro cs
  induction cs with
  | nil =>
    intro ds acc h _
    cases ds with
    | nil => simp [scanDigits, valBE]
    | cons d r => simp at h
  | cons c r ih =>
    intro ds acc h hb
    cases ds with
    | nil => simp at h
    | cons d ds' =>
      simp only [List.map_cons, List.cons.injEq] at h
      have hd : d < b := hb d (by simp)
      simp only [scanDigits, h.1, hd, if_true]
      rw [ih ds' _ h.2 (fun e he => hb e (by simp [he]))]
      simp only [valBE, List.length_cons, Nat.pow_succ]
      congr 1
      rw [Nat.add_mul, Nat.mul_assoc, Nat.mul_comm b, Nat.add_assoc]

theorem scanDigits_some (b : Nat) (cs : List Char) (acc v : Nat) (h : scanDigits b cs acc = some v) :
    ∃ ds : List Nat, cs.map digitVal = ds.map some ∧ (∀ d ∈ ds, d < b) := by
  fun_induction scanDigits b cs acc with
  | case1 acc => exact ⟨[], rfl, nofun⟩
  | case2 c r acc d hc hd ih =>
    obtain ⟨ds, h1, h2⟩ := ih h
    exact ⟨d :: ds, by rw [List.map_cons, hc, h1, List.map_cons], List.forall_mem_cons.2 ⟨hd, h2⟩⟩
  | case3 => cases h
  | case4 => cases h

theorem digitVal_plus : digitVal '+' = none := by decide
theorem digitVal_minus : digitVal '-' = none := by decide
theorem digitVal_underscore : digitVal '_' = none := by decide

/-- what `SetString` does after the optional sign, on a well-formed digit string -/
theorem unsigned_of_digits (b : Nat) (f : Nat → Int) (s : List Char) (ds : List Nat) (hne : ds ≠ [])
    (h : s.map digitVal = ds.map some) (hb : ∀ d ∈ ds, d < b) :
    (if s.isEmpty then none else (scanDigits b s 0).map f) = some (f (valBE b ds)) := by
  have hs : s.isEmpty = false := by
    cases s with
    | nil => cases ds with
      | nil => exact absurd rfl hne
      | cons d r => cases h
    | cons c r => rfl
  rw [hs, scanDigits_spec b s ds 0 h hb, Nat.zero_mul, Nat.zero_add]
  rfl

theorem digits_of_unsigned (b : Nat) (f : Nat → Int) (r : List Char) (v : Int)
    (hr : (if r.isEmpty then none else (scanDigits b r 0).map f) = some v) :
    ∃ ds : List Nat, ds ≠ [] ∧ r.map digitVal = ds.map some ∧ (∀ d ∈ ds, d < b) := by
  cases r with
  | nil => cases hr
  | cons c r' =>
    cases hs : scanDigits b (c :: r') 0 with
    | none => rw [hs] at hr; cases hr
    | some w =>
      obtain ⟨ds, h1, h2⟩ := scanDigits_some b _ _ _ hs
      exact ⟨ds, (fun e => by subst e; cases h1), h1, h2⟩

theorem setString_digits (b : Nat) (s : List Char) (ds : List Nat) (hne : ds ≠ [])
    (h : s.map digitVal = ds.map some) (hb : ∀ d ∈ ds, d < b) :
    setString b s = some ((valBE b ds : Nat) : Int) := by
  have hu := unsigned_of_digits b Int.ofNat s ds hne h hb
  -- the first character is a digit, hence neither sign, so the match falls through to the unsigned case
  cases ds with
  | nil => exact absurd rfl hne
  | cons d ds' =>
    unfold setString
    split
    · rw [List.map_cons, digitVal_plus] at h; cases h
    · rw [List.map_cons, digitVal_minus] at h; cases h
    · exact hu

theorem setString_plus (b : Nat) (s : List Char) (ds : List Nat) (hne : ds ≠ [])
    (h : s.map digitVal = ds.map some) (hb : ∀ d ∈ ds, d < b) :
    setString b ('+' :: s) = some ((valBE b ds : Nat) : Int) :=
  unsigned_of_digits b Int.ofNat s ds hne h hb

theorem setString_minus (b : Nat) (s : List Char) (ds : List Nat) (hne : ds ≠ [])
    (h : s.map digitVal = ds.map some) (hb : ∀ d ∈ ds, d < b) :
    setString b ('-' :: s) = some (-((valBE b ds : Nat) : Int)) :=
  unsigned_of_digits b (fun v => -Int.ofNat v) s ds hne h hb

theorem setString_some (b : Nat) (s : List Char) (v : Int) (h : setString b s = some v) :
    ∃ (body : List Char) (ds : List Nat), (s = body ∨ s = '+' :: body ∨ s = '-' :: body) ∧ ds ≠ [] ∧
      body.map digitVal = ds.map some ∧ (∀ d ∈ ds, d < b) := by
  unfold setString at h
  split at h
  · rename_i r
    obtain ⟨ds, hd⟩ := digits_of_unsigned b _ r v h
    exact ⟨r, ds, Or.inr (Or.inl rfl), hd⟩
  · rename_i r
    obtain ⟨ds, hd⟩ := digits_of_unsigned b _ r v h
    exact ⟨r, ds, Or.inr (Or.inr rfl), hd⟩
  · obtain ⟨ds, hd⟩ := digits_of_unsigned b _ s v h
    exact ⟨s, ds, Or.inl rfl, hd⟩

/-- `bigints.Index` (loop from position `i`) -/
def indexFrom (n : Int) : List Int → Nat → Int
  | [], _ => -1
  | x :: r, i => if n = x then (i : Int) else indexFrom n r (i + 1)

def index (n : Int) (xs : List Int) : Int := indexFrom n xs 0
def contains (n : Int) (xs : List Int) : Bool := decide (index n xs ≥ 0)

theorem indexFrom_spec (n : Int) : ∀ (xs : List Int) (i : Nat),
    (n ∉ xs → indexFrom n xs i = -1) ∧
    (n ∈ xs → ∃ k, k < xs.length ∧ indexFrom n xs i = ((i + k : Nat) : Int) ∧ xs[k]? = some n ∧
      ∀ j, j < k → xs[j]? ≠ some n) := by
  intro xs
  induction xs with
  | nil => intro i; exact ⟨fun _ => rfl, fun h => absurd h List.not_mem_nil⟩
  | cons x r ih =>
    intro i
    by_cases h : n = x
    · subst h
      refine ⟨fun hn => absurd List.mem_cons_self hn, fun _ => ⟨0, Nat.succ_pos _, ?_, rfl, nofun⟩⟩
      rw [indexFrom, if_pos rfl]; rfl
    · obtain ⟨i1, i2⟩ := ih (i + 1)
      rw [indexFrom, if_neg h]
      refine ⟨fun hn => i1 fun hm => hn (List.mem_cons_of_mem _ hm), fun hm => ?_⟩
      obtain ⟨k, hk, he, hg, hf⟩ := i2 ((List.mem_cons.mp hm).resolve_left h)
      refine ⟨k + 1, Nat.succ_lt_succ hk, by rw [he, Nat.add_right_comm]; rfl, hg, fun j hj => ?_⟩
      cases j with
      | zero => exact fun e => h (Option.some.inj e).symm
      | succ j => exact hf j (Nat.lt_of_succ_lt_succ hj)

theorem contains_iff (n : Int) (xs : List Int) : contains n xs = true ↔ n ∈ xs := by
  obtain ⟨h1, h2⟩ := indexFrom_spec n xs 0
  rw [contains, index, decide_eq_true_eq]
  constructor
  · intro h
    exact Decidable.by_contra fun hm => absurd (h1 hm ▸ h) (by decide)
  · intro hm
    obtain ⟨k, _, he, _⟩ := h2 hm
    exact he ▸ Int.natCast_nonneg _

/-- `bigints.Sort` (result of sorting integers is unique, so any sort is a model) -/
def sort (xs : List Int) : List Int := xs.mergeSort (fun a b => decide (a ≤ b))

theorem sort_spec (xs : List Int) : (sort xs).Perm xs ∧ (sort xs).Pairwise (· ≤ ·) :=
  ⟨List.mergeSort_perm xs _, pairwise_mergeSort_le xs⟩

/-- no two neighbours equal -/
def NoAdj : List Int → Prop
  | [] => True
  | [_] => True
  | x :: y :: r => x ≠ y ∧ NoAdj (y :: r)

/-- expand each `u[i]` into `cs[i]` copies -/
def expand : List Nat → List Int → List Int
  | c :: cs, x :: u => List.replicate c x ++ expand cs u
  | _, _ => []

theorem uniq_noAdj (l : List Int) : NoAdj (uniq l) := by
  induction l using uniq.induct_unfolding with
  | case1 => trivial
  | case2 x => trivial
  | case3 y r ih => exact ih
  | case4 x y r hne ih =>
    obtain ⟨t, ht⟩ := uniq_cons_eq y r
    rw [ht] at ih ⊢
    exact ⟨hne, ih⟩

theorem expand_succ_cons (c : Nat) (cs : List Nat) (x : Int) (u : List Int) :
    expand ((c + 1) :: cs) (x :: u) = x :: expand (c :: cs) (x :: u) := rfl

/-- the input is the output with every element repeated at least once -/
theorem uniq_expand (l : List Int) : ∃ cs : List Nat, cs.length = (uniq l).length ∧ (∀ c ∈ cs, 1 ≤ c) ∧
    l = expand cs (uniq l) := by
  induction l using uniq.induct_unfolding with
  | case1 => exact ⟨[], rfl, nofun, rfl⟩
  | case2 x => exact ⟨[1], rfl, by simp, rfl⟩
  | case3 y r ih =>
    -- a repeated head: one more copy of the first element of the output
    obtain ⟨cs, h1, h2, h3⟩ := ih
    obtain ⟨t, ht⟩ := uniq_cons_eq y r
    rw [ht] at h1 h3 ⊢
    cases cs with
    | nil => cases h1
    | cons c cs =>
      refine ⟨(c + 1) :: cs, h1, fun d hd => ?_, by rw [expand_succ_cons, ← h3]⟩
      rcases List.mem_cons.mp hd with rfl | hd
      · exact Nat.succ_pos c
      · exact h2 d (List.mem_cons_of_mem _ hd)
  | case4 x y r hne ih =>
    obtain ⟨cs, h1, h2, h3⟩ := ih
    refine ⟨1 :: cs, congrArg (· + 1) h1, fun d hd => ?_, congrArg (x :: ·) h3⟩
    rcases List.mem_cons.mp hd with rfl | hd
    · exact Nat.le_refl 1
    · exact h2 d hd

/-- `bigvector.Add`; `none` = panic "length mismatch" -/
def vadd (u v : List Int) : Option (List Int) :=
  if u.length = v.length then some (List.zipWith (· + ·) u v) else none

/-- `bigvector.Lsh` -/
def vlsh (v : List Int) (s : Nat) : List Int := v.map (· * (2 : Int) ^ s)

end P.HX
