import AC.CalcYard
/-! C13 prototype: the character-level loop of `calc.Eval` on rendered token lists
    (decimal literals with optional minus; arbitrary blanks). -/
namespace P.YP

def opOfChar : Char → Option Bop
  | '^' => some .pow | '*' => some .mul | '/' => some .div | '+' => some .add | '-' => some .sub
  | _ => none
def charOfOp : Bop → Char
  | .pow => '^' | .mul => '*' | .div => '/' | .add => '+' | .sub => '-'

def digitsValN (ds : List Char) : Nat := ds.foldl (fun a c => 10 * a + (c.toNat - '0'.toNat)) 0

/-- `number`: optional '-', decimal digits (canonical form only: no superfluous leading zero) -/
def number (b : List Char) : Option (Int × List Char) :=
  let (neg, b1) := match b with | '-' :: r => (true, r) | _ => (false, b)
  let ds := b1.takeWhile Char.isDigit
  if ds.isEmpty || (ds.length > 1 && ds.head? == some '0') then none
  else
    let v : Int := digitsValN ds
    some (if neg then -v else v, b1.dropWhile Char.isDigit)

/-- the loop of `Eval`: `expectOperand`, stacks, remaining input -/
def evalLoop : Nat → Bool → List Int → List Bop → List Char → Option Int
  | 0, _, _, _, _ => none
  | _+1, _, vs, os, [] => finish vs os
  | f+1, ex, vs, os, c :: r =>
    if c = ' ' then evalLoop f ex vs os r
    else if ex then
      match number (c :: r) with
      | none => none
      | some (x, rest) => if rest.length ≤ r.length then evalLoop f false (x :: vs) os rest else none
    else
      match opOfChar c with
      | none => none
      | some o => match popFor o vs os with
        | none => none
        | some (vs', os') => evalLoop f true vs' (o :: os') r

def eval (s : List Char) : Option Int := evalLoop (s.length + 1) true [] [] s

def litText (n : Int) : List Char :=
  if n < 0 then '-' :: Nat.toDigits 10 n.natAbs else Nat.toDigits 10 n.toNat

def sp (k : Nat) : List Char := List.replicate k ' '

/-- `(blanks op blanks literal)*`, then trailing blanks; `pad` supplies the blank counts -/
def renderRest (pad : Nat → Nat) : Nat → List (Bop × Int) → List Char
  | i, [] => sp (pad i)
  | i, (o, n) :: r => sp (pad i) ++ charOfOp o :: (sp (pad (i + 1)) ++ (litText n ++ renderRest pad (i + 2) r))

def render (pad : Nat → Nat) (n0 : Int) (toks : List (Bop × Int)) : List Char :=
  sp (pad 0) ++ (litText n0 ++ renderRest pad 1 toks)

/-- what may follow a literal: end, a blank or an operator — never a digit -/
def NoDigitHead (r : List Char) : Prop := ∀ c t, r = c :: t → c.isDigit = false

theorem takeWhile_append_stop {α : Type} (p : α → Bool) (ds r : List α) (hd : ∀ x ∈ ds, p x = true)
    (hr : ∀ c t, r = c :: t → p c = false) :
    (ds ++ r).takeWhile p = ds ∧ (ds ++ r).dropWhile p = r := by
  rw [List.takeWhile_append_of_pos hd, List.dropWhile_append_of_pos hd]
  cases r with
  | nil => simp
  | cons c t => simp [hr c t rfl]

/-- `digitsValN` is core's `Nat.ofDigitChars 10`, the inverse of `Nat.toDigits 10` -/
theorem digitsValN_toDigits (n : Nat) : digitsValN (Nat.toDigits 10 n) = n :=
  (show ∀ ds, digitsValN ds = Nat.ofDigitChars 10 ds 0 from fun _ => rfl) _ |>.trans
    Nat.ofDigitChars_ten_toDigits

theorem toDigits_head (b n : Nat) : ∃ c t, Nat.toDigits b n = c :: t := by
  cases h : Nat.toDigits b n with
  | nil => exact absurd h Nat.toDigits_ne_nil
  | cons c t => exact ⟨c, t, rfl⟩

theorem toDigits_isDigit {m : Nat} {x : Char} (hx : x ∈ Nat.toDigits 10 m) : x.isDigit = true :=
  Nat.isDigit_of_mem_toDigits (by decide) (by decide) hx

theorem toDigits_head_digit (m : Nat) : ∃ c t, Nat.toDigits 10 m = c :: t ∧ c.isDigit = true := by
  obtain ⟨c, t, h⟩ := toDigits_head 10 m
  exact ⟨c, t, h, toDigits_isDigit (h ▸ List.mem_cons_self)⟩

theorem toDigits_zero_head {n : Nat} : ∀ {t : List Char}, Nat.toDigits 10 n = '0' :: t → n = 0 := by
  induction n using Nat.base_induction 10 (by omega) with
  | single m hm =>
    intro t h
    rw [Nat.toDigits_of_lt_base hm] at h
    exact Nat.digitChar_eq_zero.1 (List.cons.inj h).1
  | digit m k hk hm ih =>
    intro t h
    rw [← Nat.toDigits_append_toDigits (by omega) hm hk] at h
    obtain ⟨c, t', hd⟩ := toDigits_head 10 m
    rw [hd] at h
    exact absurd (ih (hd.trans (congrArg (· :: t') (List.cons.inj h).1))) (by omega)

/-- the condition under which `number` refuses a digit string never holds of `Nat.toDigits` -/
theorem toDigits_canonical (n : Nat) :
    ((Nat.toDigits 10 n).isEmpty || (decide ((Nat.toDigits 10 n).length > 1) && ((Nat.toDigits 10 n).head? == some '0'))) = false := by
  obtain ⟨c, t, h⟩ := toDigits_head 10 n
  by_cases hc : c = '0'
  · cases toDigits_zero_head (hc ▸ h); rfl
  · rw [h]; simp [hc]

theorem toDigits_scan (m : Nat) (r : List Char) (hr : NoDigitHead r) :
    (Nat.toDigits 10 m ++ r).takeWhile Char.isDigit = Nat.toDigits 10 m ∧
      (Nat.toDigits 10 m ++ r).dropWhile Char.isDigit = r :=
  takeWhile_append_stop _ _ r (fun _ hx => toDigits_isDigit hx) hr

/-- `number` once the sign is split off: a canonical digit string up to the first non-digit -/
theorem number_digits {b : List Char} {neg : Bool} (m : Nat) {r : List Char} (hr : NoDigitHead r)
    (hb : (match b with | '-' :: r' => (true, r') | _ => (false, b)) = (neg, Nat.toDigits 10 m ++ r)) :
    number b = some (if neg then -(m : Int) else m, r) := by
  obtain ⟨t1, t2⟩ := toDigits_scan m r hr
  unfold number
  rw [hb]
  simp only [t1, t2, toDigits_canonical, Bool.false_eq_true, if_false, digitsValN_toDigits]

theorem number_ok (n : Int) (r : List Char) (hr : NoDigitHead r) : number (litText n ++ r) = some (n, r) := by
  unfold litText
  split
  · rename_i hneg
    refine (number_digits n.natAbs hr (neg := true) rfl).trans ?_
    rw [if_pos rfl, Int.ofNat_natAbs_of_nonpos (Int.le_of_lt hneg), Int.neg_neg]
  · rename_i hneg
    refine (number_digits n.toNat hr (neg := false) ?_).trans ?_
    · -- a digit string does not start with `-`
      obtain ⟨c, t, hd, hc⟩ := toDigits_head_digit n.toNat
      rw [hd]
      split
      · rename_i heq; cases (List.cons.inj heq).1 ▸ hc
      · rfl
    · rw [if_neg Bool.false_ne_true, Int.toNat_of_nonneg (Int.not_lt.1 hneg)]

theorem evalLoop_blank (f : Nat) (ex : Bool) (vs : List Int) (os : List Bop) (r : List Char) :
    evalLoop (f + 1) ex vs os (' ' :: r) = evalLoop f ex vs os r := rfl

theorem evalLoop_skip : ∀ (k f : Nat) (ex : Bool) (vs : List Int) (os : List Bop) (r : List Char),
    evalLoop (f + k) ex vs os (sp k ++ r) = evalLoop f ex vs os r := by
  intro k
  induction k with
  | zero => intro f ex vs os r; rfl
  | succ k ih => intro f ex vs os r; exact (evalLoop_blank (f + k) ex vs os _).trans (ih f ex vs os r)

theorem opOfChar_charOfOp (o : Bop) : opOfChar (charOfOp o) = some o := by cases o <;> rfl
theorem opOfChar_eq_some {c : Char} {o : Bop} (h : opOfChar c = some o) : c = charOfOp o := by
  unfold opOfChar at h
  -- in each of the five branches `h` names `o`; in the last it is `none = some o`
  split at h <;> cases h <;> rfl
theorem charOfOp_ne_space (o : Bop) : charOfOp o ≠ ' ' := by cases o <;> decide
theorem charOfOp_not_digit (o : Bop) : (charOfOp o).isDigit = false := by cases o <;> decide

theorem ne_space_of_isDigit {c : Char} (h : c.isDigit = true) : c ≠ ' ' :=
  fun e => nomatch e ▸ h

theorem litText_head (n : Int) : ∃ c t, litText n = c :: t ∧ c ≠ ' ' := by
  unfold litText
  split
  · exact ⟨'-', _, rfl, by decide⟩
  · obtain ⟨c, t, hd, hc⟩ := toDigits_head_digit n.toNat
    exact ⟨c, t, hd, ne_space_of_isDigit hc⟩

theorem litText_pos (n : Int) : 0 < (litText n).length := by
  obtain ⟨c, t, hl, _⟩ := litText_head n; rw [hl]; exact Nat.succ_pos _

theorem length_sp (k : Nat) : (sp k).length = k := List.length_replicate

theorem head_sp_append {k : Nat} {x : List Char} {c : Char} {t : List Char} (h : sp k ++ x = c :: t) :
    c = ' ' ∨ x = c :: t := by
  cases k with
  | zero => exact Or.inr h
  | succ k => exact Or.inl (List.cons.inj h).1.symm

theorem renderRest_head (pad : Nat → Nat) (i : Nat) (toks : List (Bop × Int)) (c : Char) (t : List Char)
    (h : renderRest pad i toks = c :: t) : c = ' ' ∨ ∃ o, c = charOfOp o := by
  cases toks with
  | nil => exact (head_sp_append ((List.append_nil _).trans h)).imp_right nofun
  | cons tk r => exact (head_sp_append h).imp_right fun e => ⟨tk.1, (List.cons.inj e).1.symm⟩

theorem renderRest_noDigit (pad : Nat → Nat) (i : Nat) (toks : List (Bop × Int)) : NoDigitHead (renderRest pad i toks) := by
  intro c t h
  rcases renderRest_head pad i toks c t h with rfl | ⟨o, rfl⟩
  · decide
  · exact charOfOp_not_digit o

theorem evalLoop_operand (f : Nat) (vs : List Int) (os : List Bop) (n : Int) (r : List Char) (hr : NoDigitHead r) :
    evalLoop (f + 1) true vs os (litText n ++ r) = evalLoop f false (n :: vs) os r := by
  obtain ⟨c, t, hl, hc⟩ := litText_head n
  have hnum := number_ok n r hr
  rw [hl] at hnum ⊢
  simp only [List.cons_append] at hnum ⊢
  simp only [evalLoop, hc, if_false, if_true, hnum]
  -- the loop's guard that the number has consumed at least its first character: left is `r` of `c :: (t ++ r)`
  exact if_pos (List.length_append ▸ Nat.le_add_left ..)

theorem evalLoop_operator (f : Nat) (vs : List Int) (os : List Bop) (o : Bop) (r : List Char) :
    evalLoop (f + 1) false vs os (charOfOp o :: r) =
      match popFor o vs os with
      | none => none
      | some (vs', os') => evalLoop f true vs' (o :: os') r := by
  simp only [evalLoop, charOfOp_ne_space, if_false, Bool.false_eq_true, opOfChar_charOfOp]

/-- Fuel that exceeds the length of the text is not exhausted: of a text of `a` blanks and `n` further
    characters, the blanks and the step after them use `a + 1` units, and at least `n` are left. -/
theorem fuel_step {a n f : Nat} (h : a + n < f) : ∃ f', f = f' + 1 + a ∧ n ≤ f' := by
  obtain ⟨d, rfl⟩ := Nat.exists_eq_add_of_lt h
  exact ⟨n + d, by omega, Nat.le_add_right n d⟩

/-- a token is not empty, so the fuel left after it exceeds the rest -/
theorem fuel_rest {l r f : Nat} (hl : 0 < l) (h : l + r ≤ f) : r < f :=
  Nat.lt_of_lt_of_le (Nat.lt_add_of_pos_left hl) h

theorem evalLoop_render (pad : Nat → Nat) : ∀ (toks : List (Bop × Int)) (i f : Nat) (vs : List Int) (os : List Bop),
    (renderRest pad i toks).length < f →
    evalLoop f false vs os (renderRest pad i toks) = run vs os toks := by
  intro toks
  induction toks with
  | nil =>
    intro i f vs os hf
    simp only [renderRest, length_sp] at hf
    obtain ⟨f', rfl, _⟩ := fuel_step (n := 0) hf
    have := evalLoop_skip (pad i) (f' + 1) false vs os []
    rwa [List.append_nil] at this
  | cons tk r ih =>
    intro i f vs os hf
    obtain ⟨o, n⟩ := tk
    simp only [renderRest, List.length_append, List.length_cons, length_sp] at hf
    obtain ⟨f₁, rfl, h₁⟩ := fuel_step hf
    obtain ⟨f₂, rfl, h₂⟩ := fuel_step h₁
    rw [renderRest, evalLoop_skip, evalLoop_operator, run]
    cases popFor o vs os with
    | none => rfl
    | some res =>
      show evalLoop (f₂ + 1 + pad (i + 1)) true res.1 (o :: res.2) _ = _
      rw [evalLoop_skip, evalLoop_operand _ _ _ n _ (renderRest_noDigit pad (i + 2) r)]
      exact ih (i + 2) f₂ _ _ (fuel_rest (litText_pos n) h₂)

/-- the prototype loop on rendered expressions: `P.YP.eval` of any rendering of a token list — decimal
    literals with optional minus, any amount of blanks anywhere — is `P.YP.conv` (Lean's total `/`; the
    statement for the model, with hex and binary literals, is `AC.Calc.eval_render`). -/
theorem eval_render (pad : Nat → Nat) (n0 : Int) (toks : List (Bop × Int)) :
    eval (render pad n0 toks) = some (conv n0 toks) := by
  unfold eval render
  simp only [List.length_append, length_sp]
  obtain ⟨f', hf, hf'⟩ := fuel_step (Nat.lt_add_one (pad 0 + ((litText n0).length + (renderRest pad 1 toks).length)))
  rw [hf, evalLoop_skip, evalLoop_operand _ [] [] n0 _ (renderRest_noDigit pad 1 toks),
    evalLoop_render pad toks 1 _ [n0] [] (fuel_rest (litText_pos n0) hf')]
  exact yard_eq_conv n0 toks

end P.YP
