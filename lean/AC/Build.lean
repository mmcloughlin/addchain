import AC.Decompile
/-! C04 prototype (second half): the builder's inlining preserves the direct semantics. -/
namespace P.Sem

def norm (o : Nat × Nat) : Nat × Nat := (min o.1 o.2, max o.1 o.2)
def isOpE : Expr → Bool | .add .. => true | .shift .. => true | .double .. => true | _ => false
def inputs : Op → List Nat | .add x y => [x, y] | .dbl x => [x] | .shl x _ => [x]

/-- `builder.operator` / `builder.add`: the operator sub-expression goes first -/
def opExpr (E : Nat → Expr) : Op → Expr
  | .add x y => if isOpE (E y) && !isOpE (E x) then .add (E y) (E x) else .add (E x) (E y)
  | .dbl x => .double (E x)
  | .shl x s => .shift (E x) s

/-- `pass.ReadCounts`: an addition of an element to itself counts twice -/
def irReads (ir : List Inst) (i : Nat) : Nat := (ir.map (fun inst => (inputs inst.op).count i)).sum

structure BS where
  stmts : List Stmt
  E : Nat → Expr

def setE (E : Nat → Expr) (k : Nat) (e : Expr) : Nat → Expr := fun j => if j = k then e else E j

def usedNext (o : Nat) : Option Inst → Bool
  | some nx => (inputs nx.op).contains o
  | none => false

def inlineCond (want : Nat → Bool) (full : List Inst) (inst : Inst) (next : Option Inst) : Bool :=
  want inst.out && irReads full inst.out == 1 && usedNext inst.out next

def bStep (name : Nat → String) (want : Nat → Bool) (full : List Inst) (bs : BS) (inst : Inst)
    (next : Option Inst) : BS :=
  if inlineCond want full inst next then
    { bs with E := setE bs.E inst.out (opExpr bs.E inst.op) }
  else
    { stmts := bs.stmts ++ [⟨name inst.out, opExpr bs.E inst.op⟩],
      E := setE bs.E inst.out (.ident (name inst.out)) }

def bLoop (name : Nat → String) (want : Nat → Bool) (full : List Inst) : BS → List Inst → BS
  | bs, [] => bs
  | bs, inst :: r => bLoop name want full (bStep name want full bs inst r.head?) r

def build (name : Nat → String) (want : Nat → Bool) (ir : List Inst) : List Stmt :=
  (bLoop name want ir ⟨[], fun k => .operand k⟩ ir).stmts

/-- direct semantics returning the final name table as well -/
def dRun (p : Prog) (env : Env) : List Stmt → Option (Prog × Env)
  | [] => some (p, env)
  | st :: r =>
    match dExpr p env st.e with
    | none => none
    | some (p', x) =>
      match lookup env st.name with
      | some _ => none
      | none => dRun p' ((st.name, x) :: env) r

theorem dRun_cons_some {p : Prog} {env : Env} {st : Stmt} {r : List Stmt} {res : Prog × Env}
    (h : dRun p env (st :: r) = some res) :
    ∃ p1 x, dExpr p env st.e = some (p1, x) ∧ lookup env st.name = none ∧
      dRun p1 ((st.name, x) :: env) r = some res := by
  rw [dRun] at h
  split at h
  · cases h
  · rename_i p1 x hd
    split at h
    · cases h
    · rename_i hl; exact ⟨p1, x, hd, hl, h⟩

theorem dRun_append (a b : List Stmt) (p : Prog) (env : Env) :
    dRun p env (a ++ b) = match dRun p env a with | none => none | some (p', env') => dRun p' env' b := by
  fun_induction dRun p env a with
  | case1 p env => rfl
  | case2 p env st r h => simp only [List.cons_append, dRun, h]
  | case3 p env st r p' x h v hl => simp only [List.cons_append, dRun, h, hl]
  | case4 p env st r p' x h hl ih => simp only [List.cons_append, dRun, h, hl]; exact ih

theorem dRun_dStmts (p : Prog) (env : Env) (ss : List Stmt) : (dRun p env ss).map (·.1) = dStmts p env ss := by
  fun_induction dRun p env ss with
  | case1 p env => rfl
  | case2 p env st r h => simp only [dStmts, h]; rfl
  | case3 p env st r p' x h v hl => simp only [dStmts, h, hl]; rfl
  | case4 p env st r p' x h hl ih => simp only [dStmts, h, hl]; exact ih

theorem lookup_cons (n : String) (v : Nat) (env : Env) (s : String) :
    lookup ((n, v) :: env) s = if n = s then some v else lookup env s := by
  unfold lookup
  by_cases h : n = s <;> simp [h]

theorem dRun_keys : ∀ (ss : List Stmt) (p : Prog) (env : Env) (res : Prog × Env),
    dRun p env ss = some res → ∀ key v, lookup res.2 key = some v →
    lookup env key = some v ∨ ∃ s ∈ ss, s.name = key := by
  intro ss
  induction ss with
  | nil => intro p env res h key v hl; simp only [dRun] at h; cases h; exact Or.inl hl
  | cons st r ih =>
    intro p env res h key v hl
    obtain ⟨p1, x, _, _, hr⟩ := dRun_cons_some h
    rcases ih p1 _ res hr key v hl with h1 | ⟨s, hs, hk⟩
    · rw [lookup_cons] at h1
      split at h1
      · rename_i hn; exact Or.inr ⟨st, by simp, hn⟩
      · exact Or.inl h1
    · exact Or.inr ⟨s, List.mem_cons_of_mem _ hs, hk⟩

theorem dRun_fresh : ∀ (ss : List Stmt) (p : Prog) (env : Env) (res : Prog × Env),
    dRun p env ss = some res → (ss.map (·.name)).Nodup ∧ ∀ s ∈ ss, lookup env s.name = none := by
  intro ss
  induction ss with
  | nil => intro p env res _; simp
  | cons st r ih =>
    intro p env res h
    obtain ⟨p1, x, _, hfresh, hr⟩ := dRun_cons_some h
    obtain ⟨hnd, hall⟩ := ih p1 _ res hr
    have hne : ∀ s ∈ r, st.name ≠ s.name ∧ lookup env s.name = none := by
      intro s hs
      have := hall s hs
      rw [lookup_cons] at this
      split at this
      · cases this
      · rename_i hn; exact ⟨hn, this⟩
    refine ⟨?_, ?_⟩
    · simp only [List.map_cons, List.nodup_cons, List.mem_map, not_exists, not_and]
      exact ⟨fun s hs e => (hne s hs).1 e.symm, hnd⟩
    · intro s hs
      rcases List.mem_cons.mp hs with rfl | hs
      · exact hfresh
      · exact (hne s hs).2

theorem dRun_mono : ∀ (ss : List Stmt) (p : Prog) (env : Env) (res : Prog × Env),
    dRun p env ss = some res → ∀ key v, lookup env key = some v → lookup res.2 key = some v := by
  intro ss
  induction ss with
  | nil => intro p env res h key v hl; simp only [dRun] at h; cases h; exact hl
  | cons st r ih =>
    intro p env res h key v hl
    obtain ⟨p1, x, _, hfresh, hr⟩ := dRun_cons_some h
    apply ih p1 _ res hr key v
    rw [lookup_cons]
    split
    · rename_i hn; rw [hn, hl] at hfresh; cases hfresh
    · exact hl

theorem dRun_binds : ∀ (ss : List Stmt) (p : Prog) (env : Env) (res : Prog × Env),
    dRun p env ss = some res → ∀ s ∈ ss, ∃ v, lookup res.2 s.name = some v := by
  intro ss
  induction ss with
  | nil => intro p env res _ s hs; cases hs
  | cons st r ih =>
    intro p env res h s hs
    obtain ⟨p1, x, _, _, hr⟩ := dRun_cons_some h
    rcases List.mem_cons.mp hs with rfl | hs
    · exact ⟨x, dRun_mono r p1 _ res hr _ x (by rw [lookup_cons]; simp)⟩
    · exact ih p1 _ res hr s hs

/-! ### expressions built from atoms and at most one pending inlined expression -/
def AtomOK (name : Nat → String) (env : Env) (E : Nat → Expr) (x : Nat) : Prop :=
  E x = .operand x ∨ (E x = .ident (name x) ∧ lookup env (name x) = some x)

theorem atom_eval {name env E x} (h : AtomOK name env E x) (P : Prog) : dExpr P env (E x) = some (P, x) := by
  rcases h with h | ⟨h, hl⟩
  · rw [h]; rfl
  · rw [h]; simp [dExpr, hl]

theorem atom_notOp {name env E x} (h : AtomOK name env E x) : isOpE (E x) = false := by
  rcases h with h | ⟨h, _⟩ <;> rw [h] <;> rfl

theorem setE_self (E : Nat → Expr) (k : Nat) (e : Expr) : setE E k e k = e := if_pos rfl

theorem setE_ne (E : Nat → Expr) {k j : Nat} (h : j ≠ k) (e : Expr) : setE E k e j = E j := if_neg h

theorem AtomOK.mono {name : Nat → String} {env env' : Env} {E E' : Nat → Expr} {k : Nat}
    (h : AtomOK name env E k) (hE : E' k = E k)
    (henv : lookup env (name k) = some k → lookup env' (name k) = some k) : AtomOK name env' E' k := by
  unfold AtomOK at *
  rw [hE]
  exact h.imp_right fun ⟨h1, h2⟩ => ⟨h1, henv h2⟩

/-- applying an IR operation in the direct semantics (operands of an addition sorted) -/
def apOp (P : Prog) : Op → Option (Prog × Nat)
  | .add x y => pAdd P (min x y) (max x y)
  | .dbl x => pAdd P x x
  | .shl x s => pShift s P x

theorem opExpr_add_keep {E : Nat → Expr} {x y : Nat} (hy : isOpE (E y) = false) :
    opExpr E (.add x y) = .add (E x) (E y) :=
  if_neg (by rw [hy]; exact Bool.false_ne_true)

theorem opExpr_add_swap {E : Nat → Expr} {x y : Nat} (hy : isOpE (E y) = true) (hx : isOpE (E x) = false) :
    opExpr E (.add x y) = .add (E y) (E x) :=
  if_pos (by rw [hy, hx]; rfl)

theorem dExpr_add {P P1 P2 : Prog} {env : Env} {a b : Expr} {x y : Nat}
    (ha : dExpr P env a = some (P1, x)) (hb : dExpr P1 env b = some (P2, y)) :
    dExpr P env (.add a b) = pAdd P2 (min x y) (max x y) := by
  simp only [dExpr, ha, hb]

theorem opExpr_atoms (name : Nat → String) (env : Env) (E : Nat → Expr) (op : Op) (P : Prog)
    (hs : ∀ x s, op = .shl x s → 1 ≤ s)
    (h : ∀ x ∈ inputs op, AtomOK name env E x) : dExpr P env (opExpr E op) = apOp P op := by
  cases op with
  | add x y =>
    have hx := h x List.mem_cons_self
    have hy := h y (List.mem_cons_of_mem x List.mem_cons_self)
    rw [opExpr_add_keep (atom_notOp hy), dExpr_add (atom_eval hx P) (atom_eval hy P), apOp]
  | dbl x =>
    have hx := h x List.mem_cons_self
    simp only [opExpr, dExpr, atom_eval hx, apOp]
  | shl x s =>
    have hx := h x List.mem_cons_self
    have : s ≠ 0 := Nat.ne_of_gt (hs x s rfl)
    simp only [opExpr, dExpr, atom_eval hx, apOp, if_neg this]

theorem opExpr_pending (name : Nat → String) (env : Env) (E : Nat → Expr) (op : Op) (D D' : Prog) (o : Nat)
    (hs : ∀ x s, op = .shl x s → 1 ≤ s)
    (hpend : dExpr D env (E o) = some (D', o)) (hop : isOpE (E o) = true)
    (hcount : (inputs op).count o = 1)
    (h : ∀ x ∈ inputs op, x ≠ o → AtomOK name env E x) : dExpr D env (opExpr E op) = apOp D' op := by
  have single : ∀ x, [x].count o = 1 → x = o := by
    intro x hc; by_cases e : x = o
    · exact e
    · simp [e] at hc
  cases op with
  | add x y =>
    simp only [inputs] at hcount
    by_cases hxo : x = o
    · have hyo : y ≠ o := by
        intro e; subst hxo; subst e; simp at hcount
      have hy := h y (List.mem_cons_of_mem x List.mem_cons_self) hyo
      subst hxo
      rw [opExpr_add_keep (atom_notOp hy), dExpr_add hpend (atom_eval hy D'), apOp]
    · obtain rfl : y = o := single y (by rwa [List.count_cons_of_ne hxo] at hcount)
      have hx := h x List.mem_cons_self hxo
      -- the pending operator goes first; `apOp` orders the operands anyway
      rw [opExpr_add_swap hop (atom_notOp hx), dExpr_add hpend (atom_eval hx D'), apOp, Nat.min_comm, Nat.max_comm]
  | dbl x =>
    obtain rfl := single x hcount
    simp only [opExpr, dExpr, hpend, apOp]
  | shl x s =>
    obtain rfl := single x hcount
    have : s ≠ 0 := Nat.ne_of_gt (hs x s rfl)
    simp only [opExpr, dExpr, hpend, apOp, if_neg this]

theorem isOpE_opExpr (E : Nat → Expr) (op : Op) : isOpE (opExpr E op) = true := by
  cases op with
  | add x y => simp only [opExpr]; split <;> rfl
  | dbl x => rfl
  | shl x s => rfl

theorem isDouble_norm (o : Nat × Nat) : isDouble (norm o) = isDouble o := by
  unfold isDouble norm
  by_cases h : o.1 = o.2
  · rw [h, Nat.min_self, Nat.max_self]
  · rw [beq_eq_false_iff_ne.2 h, beq_eq_false_iff_ne.2 (by omega)]

theorem pAdd_norm {p p' : Prog} {i j o : Nat} (h : pAdd p i j = some (p', o)) :
    pAdd (p.map norm) (min i j) (max i j) = some (p'.map norm, o) := by
  obtain ⟨hi, hj, rfl, rfl⟩ := pAdd_eq_some.1 h
  refine pAdd_eq_some.2 ⟨?_, ?_, by simp [norm], by simp⟩
  · rw [List.length_map]; exact Nat.le_trans (Nat.min_le_left i j) hi
  · rw [List.length_map]; exact Nat.max_le.2 ⟨hi, hj⟩

theorem pShift_norm : ∀ (s : Nat) {p p' : Prog} {x o : Nat}, pShift s p x = some (p', o) →
    pShift s (p.map norm) x = some (p'.map norm, o) := by
  intro s
  induction s with
  | zero => intro p p' x o h; rw [pShift] at h ⊢; cases h; rfl
  | succ s ih =>
    intro p p' x o h
    rw [pShift] at h ⊢
    split at h
    · cases h
    · rename_i h1
      have := pAdd_norm h1
      rw [Nat.min_self, Nat.max_self] at this
      rw [this]
      exact ih h

theorem apOp_of_cInst (C C' : Prog) (inst : Inst) (hs : ∀ x s, inst.op = .shl x s → 1 ≤ s)
    (h : cInst C inst = some C') :
    apOp (C.map norm) inst.op = some (C'.map norm, inst.out) ∧
    (∀ x ∈ inputs inst.op, x ≤ C.length) ∧ inst.out = C'.length ∧ C.length < C'.length := by
  rw [cInst_eq_some] at h
  cases hop : inst.op with
  | add x y =>
    rw [hop] at h
    obtain ⟨hx, hy, rfl, ho⟩ := pAdd_eq_some.1 h
    exact ⟨pAdd_norm h, by simp [inputs, hx, hy], by simp [ho], by simp⟩
  | dbl x =>
    rw [hop] at h
    obtain ⟨hx, _, rfl, ho⟩ := pAdd_eq_some.1 h
    have := pAdd_norm h
    rw [Nat.min_self, Nat.max_self] at this
    exact ⟨this, by simp [inputs, hx], by simp [ho], by simp⟩
  | shl x s =>
    rw [hop] at h
    obtain ⟨hx, hl, ho⟩ := pShift_pos_some (hs x s hop) h
    exact ⟨pShift_norm s h, by simp [inputs, hx], ho, hl ▸ Nat.lt_add_of_pos_right (hs x s hop)⟩

theorem irReads_append (a b : List Inst) (i : Nat) : irReads (a ++ b) i = irReads a i + irReads b i := by
  simp [irReads, List.map_append, List.sum_append]

theorem irReads_cons (a : Inst) (b : List Inst) (i : Nat) :
    irReads (a :: b) i = (inputs a.op).count i + irReads b i := by
  simp [irReads]

theorem not_mem_of_irReads_zero : ∀ (r : List Inst) (i : Nat), irReads r i = 0 → ∀ inst ∈ r, i ∉ inputs inst.op := by
  intro r
  induction r with
  | nil => intro i _ inst h; simp at h
  | cons a r ih =>
    intro i h inst hm
    rw [irReads_cons] at h
    rcases List.mem_cons.mp hm with rfl | hm
    · intro hc
      have := List.count_pos_iff.mpr hc
      omega
    · exact ih i (by omega) inst hm

theorem irReads_once {pre : List Inst} {inst nx : Inst} {r : List Inst} {o : Nat}
    (h : irReads (pre ++ inst :: nx :: r) o = 1) (hnx : o ∈ inputs nx.op) :
    (inputs nx.op).count o = 1 ∧ ∀ i' ∈ r, o ∉ inputs i'.op := by
  have hpos := List.count_pos_iff.mpr hnx
  rw [irReads_append, irReads_cons, irReads_cons] at h
  exact ⟨by omega, not_mem_of_irReads_zero r o (by omega)⟩

/-- every identifier of the expression satisfies `G` -/
def IdsIn (G : String → Prop) : Expr → Prop
  | .operand _ => True
  | .ident s => G s
  | .add x y => IdsIn G x ∧ IdsIn G y
  | .shift x _ => IdsIn G x
  | .double x => IdsIn G x

theorem idsIn_opExpr {G : String → Prop} {E : Nat → Expr} (hE : ∀ k, IdsIn G (E k)) (op : Op) :
    IdsIn G (opExpr E op) := by
  cases op with
  | add x y =>
    simp only [opExpr]
    split
    · exact ⟨hE y, hE x⟩
    · exact ⟨hE x, hE y⟩
  | dbl x => exact hE x
  | shl x s => exact hE x

/-- The state of the builder before the instructions `rest`, when those before them compile to `C`.
    The statements emitted so far denote `D` and bind the names in `env`.  `pend` is the index of an
    instruction result that was inlined and not yet consumed: its expression `E o` takes `D` to `C` (sorted);
    without one, `D` is `C` (sorted).  Every other index that is still read is an atom.  Every identifier
    anywhere in the state is a generated name. -/
structure BInv (name : Nat → String) (rest : List Inst) (C : Prog) (bs : BS)
    (pend : Option Nat) (D : Prog) (env : Env) : Prop where
  run : dRun [] [] bs.stmts = some (D, env)
  bound : ∀ k v, lookup env (name k) = some v → v = k ∧ k ≤ C.length
  atoms : ∀ k, pend = some k ∨ AtomOK name env bs.E k ∨ (∀ inst ∈ rest, k ∉ inputs inst.op)
  pendNone : pend = none → D = C.map norm
  pendSome : ∀ o, pend = some o → dExpr D env (bs.E o) = some (C.map norm, o) ∧ isOpE (bs.E o) = true ∧
        ∃ nx r', rest = nx :: r' ∧ (inputs nx.op).count o = 1 ∧ ∀ inst ∈ r', o ∉ inputs inst.op
  ids : ∀ k, IdsIn (fun s => ∃ j, s = name j) (bs.E k)
  stmts : ∀ st ∈ bs.stmts, (∃ j, st.name = name j) ∧ IdsIn (fun s => ∃ j, s = name j) st.e ∧ isOpE st.e = true

theorem BInv.init (name : Nat → String) (ir : List Inst) : BInv name ir [] ⟨[], fun k => .operand k⟩ none [] [] where
  run := rfl
  bound := fun k v h => by simp [lookup] at h
  atoms := fun k => .inr (.inl (.inl rfl))
  pendNone := fun _ => rfl
  pendSome := fun o h => nomatch h
  ids := fun k => trivial
  stmts := fun st h => nomatch h

/-- after the last instruction nothing is pending: the statements denote the compiled program -/
theorem BInv.final {name : Nat → String} {C : Prog} {bs : BS} {pend : Option Nat} {D : Prog} {env : Env}
    (h : BInv name [] C bs pend D env) : dRun [] [] bs.stmts = some (C.map norm, env) := by
  cases pend with
  | none => rw [h.run, h.pendNone rfl]
  | some o =>
    obtain ⟨_, _, nx, r', hr, _⟩ := h.pendSome o rfl
    cases hr

theorem bStep_inv (name : Nat → String) (hinj : ∀ a b, name a = name b → a = b) (want : Nat → Bool)
    (full pre : List Inst) (inst : Inst) (r : List Inst) (C C' : Prog) (bs : BS) (pend : Option Nat)
    (D : Prog) (env : Env)
    (hfull : full = pre ++ inst :: r)
    (hs : ∀ x s, inst.op = .shl x s → 1 ≤ s)
    (hc : cInst C inst = some C')
    (hI : BInv name (inst :: r) C bs pend D env) :
    ∃ pend' D' env', BInv name r C' (bStep name want full bs inst r.head?) pend' D' env' := by
  obtain ⟨hap, hbound, hout, hlen⟩ := apOp_of_cInst C C' inst hs hc
  have hin : ∀ x ∈ inputs inst.op, pend = some x ∨ AtomOK name env bs.E x := by
    intro x hx
    rcases hI.atoms x with h | h | h
    · exact Or.inl h
    · exact Or.inr h
    · exact absurd hx (h inst (by simp))
  have heval : dExpr D env (opExpr bs.E inst.op) = some (C'.map norm, inst.out) ∧
      (∀ o, pend = some o → ∀ i' ∈ r, o ∉ inputs i'.op) := by
    cases hp : pend with
    | none =>
      refine ⟨?_, nofun⟩
      rw [opExpr_atoms name env bs.E inst.op D hs, hI.pendNone hp, hap]
      intro x hx
      exact (hin x hx).resolve_left (by rw [hp]; nofun)
    | some o =>
      obtain ⟨hpe, hpop, nx, r', hrest, hcount, hunread⟩ := hI.pendSome o hp
      cases hrest
      refine ⟨?_, fun o' ho' => by cases ho'; exact hunread⟩
      rw [opExpr_pending name env bs.E inst.op D (C.map norm) o hs hpe hpop hcount, hap]
      intro x hx hxo
      exact (hin x hx).resolve_left (by rw [hp]; intro e; cases e; exact hxo rfl)
  obtain ⟨hev, hold⟩ := heval
  have hatoms : ∀ (env' : Env) (e : Expr), (∀ k, k ≠ inst.out → lookup env (name k) = some k →
      lookup env' (name k) = some k) → ∀ k, k ≠ inst.out →
      AtomOK name env' (setE bs.E inst.out e) k ∨ ∀ i' ∈ r, k ∉ inputs i'.op := by
    intro env' e hext k hk
    rcases hI.atoms k with h | h | h
    · exact .inr (hold k h)
    · exact .inl (h.mono (setE_ne _ hk e) (hext k hk))
    · exact .inr fun i' hi' => h i' (List.mem_cons_of_mem _ hi')
  have hids : ∀ e, IdsIn (fun s => ∃ j, s = name j) e → ∀ k, IdsIn (fun s => ∃ j, s = name j)
      (setE bs.E inst.out e k) := by
    intro e he k
    by_cases hk : k = inst.out
    · rw [hk, setE_self]; exact he
    · rw [setE_ne _ hk]; exact hI.ids k
  have hopids := idsIn_opExpr hI.ids inst.op
  unfold bStep
  by_cases hcond : inlineCond want full inst r.head? = true
  · -- inline: the expression becomes the pending one
    rw [if_pos hcond]
    simp only [inlineCond, Bool.and_eq_true, beq_iff_eq] at hcond
    obtain ⟨⟨_, hreads⟩, hnext⟩ := hcond
    refine ⟨some inst.out, D, env, hI.run, ?_, ?_, nofun, ?_, hids _ hopids, hI.stmts⟩
    · intro k v h
      exact ⟨(hI.bound k v h).1, Nat.le_trans (hI.bound k v h).2 (Nat.le_of_lt hlen)⟩
    · intro k
      by_cases hk : k = inst.out
      · exact .inl (congrArg some hk.symm)
      · exact .inr (hatoms env _ (fun _ _ h => h) k hk)
    · intro o ho
      cases ho
      refine ⟨by simp only [setE_self]; exact hev, by simp only [setE_self]; exact isOpE_opExpr _ _, ?_⟩
      cases r with
      | nil => simp [usedNext] at hnext
      | cons nx r' => exact ⟨nx, r', rfl, irReads_once (hfull ▸ hreads) (by simpa [usedNext] using hnext)⟩
  · -- commit: a new statement, bound to the output index
    rw [if_neg hcond]
    have hfresh : lookup env (name inst.out) = none := by
      cases hl : lookup env (name inst.out) with
      | none => rfl
      | some v => exact absurd (hout ▸ (hI.bound _ _ hl).2) (Nat.not_le_of_lt hlen)
    refine ⟨none, C'.map norm, (name inst.out, inst.out) :: env, ?_, ?_, ?_, fun _ => rfl, nofun,
      hids _ ⟨_, rfl⟩, ?_⟩
    · show dRun [] [] (bs.stmts ++ [_]) = _
      rw [dRun_append, hI.run]
      simp only [dRun, hev, hfresh]
    · intro k v h
      rw [lookup_cons] at h
      split at h
      · rename_i hn; cases h; have := hinj _ _ hn; exact ⟨this, this ▸ Nat.le_of_eq hout⟩
      · exact ⟨(hI.bound k v h).1, Nat.le_trans (hI.bound k v h).2 (Nat.le_of_lt hlen)⟩
    · intro k
      by_cases hk : k = inst.out
      · subst hk
        exact .inr (.inl (.inr ⟨setE_self _ _ _, by rw [lookup_cons, if_pos rfl]⟩))
      · exact .inr (hatoms _ _
          (fun k hk h => by rw [lookup_cons, if_neg fun e => hk (hinj _ _ e).symm]; exact h) k hk)
    · intro st hst
      rcases List.mem_append.mp hst with h | h
      · exact hI.stmts st h
      · rw [List.mem_singleton.mp h]
        exact ⟨⟨_, rfl⟩, hopids, isOpE_opExpr _ _⟩

theorem bLoop_inv (name : Nat → String) (hinj : ∀ a b, name a = name b → a = b) (want : Nat → Bool)
    (full : List Inst) (Cfin : Prog) :
    ∀ (rest pre : List Inst) (C : Prog) (bs : BS) (pend : Option Nat) (D : Prog) (env : Env),
    full = pre ++ rest → (∀ inst ∈ rest, ∀ x s, inst.op = .shl x s → 1 ≤ s) → cAll C rest = some Cfin →
    BInv name rest C bs pend D env →
    ∃ pend' D' env', BInv name [] Cfin (bLoop name want full bs rest) pend' D' env' := by
  intro rest
  induction rest with
  | nil =>
    intro pre C bs pend D env _ _ hc hI
    cases hc
    exact ⟨pend, D, env, hI⟩
  | cons inst r ih =>
    intro pre C bs pend D env hf hs hc hI
    rw [cAll] at hc
    split at hc
    · cases hc
    · rename_i C' hci
      obtain ⟨pend1, D1, env1, hI1⟩ := bStep_inv name hinj want full pre inst r C C' bs pend D env hf
        (hs inst (by simp)) hci hI
      exact ih (pre ++ [inst]) C' _ pend1 D1 env1 (by simp [hf])
        (fun i' hi' => hs i' (List.mem_cons_of_mem _ hi')) hc hI1

/-- **C04 (builder half)**: for an IR program that compiles to `p` (all shifts ≥ 1), under any
    injective naming and any inlining preference, the built script denotes `p` with the operands
    of every addition sorted. -/
theorem build_denotes (name : Nat → String) (hinj : ∀ a b, name a = name b → a = b) (want : Nat → Bool)
    (ir : List Inst) (p : Prog) (hs : ∀ inst ∈ ir, ∀ x s, inst.op = .shl x s → 1 ≤ s)
    (hc : cAll [] ir = some p) :
    dStmts [] [] (build name want ir) = some (p.map norm) := by
  obtain ⟨pend, D, env, hI⟩ := bLoop_inv name hinj want ir p ir [] [] _ none [] [] rfl hs hc (.init name ir)
  rw [← dRun_dStmts, build, hI.final]
  rfl

/-- **C04 core**: decompile, build (any injective naming, any inlining preference), then read the
    script by the direct semantics: the original program, operands of additions sorted. -/
theorem roundtrip_core (name : Nat → String) (hinj : ∀ a b, name a = name b → a = b) (want : Nat → Bool)
    (p : Prog) (h : InRange p 0) :
    dStmts [] [] (build name want (decompile p)) = some (p.map norm) :=
  build_denotes name hinj want (decompile p) p (decompileFrom_shl_pos p _ _ _) (compile_decompile p h)

end P.Sem
