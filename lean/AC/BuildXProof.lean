import AC.BuildX
/-! The executable builder `P.BuildX.buildX` (C04, C16): the concrete names are injective on duplicate-free
chains, legal and faithful (from `P.Naming.nameOf_*`); the loop with the concrete inlining rule and complexity
counter never hits the assertion of `builder.add` and keeps `P.Sem.BInv`; clearing the last name keeps the
denotation; `Decompile` leaves no dangling input and does not panic. -/
namespace P.BuildX
open P.Sem P.Naming

def cvOf (chain : List Int) : Nat → Nat := fun i => (at' chain i).toNat

theorem evaluate_induct (M : List P.Op → Chain → Prop) (nil : M [] [1])
    (snoc : ∀ p o c, M p c → M (p ++ [o]) (c ++ [at' c o.1 + at' c o.2])) : ∀ p, M p (evaluate p) := by
  have key : ∀ (q p0 : List P.Op) (c0 : Chain), M p0 c0 →
      M (p0 ++ q) (q.foldl (fun c o => c ++ [at' c o.1 + at' c o.2]) c0) := by
    intro q
    induction q with
    | nil => intro p0 c0 h; simpa using h
    | cons o r ih =>
      intro p0 c0 h
      have := ih (p0 ++ [o]) _ (snoc p0 o c0 h)
      simpa using this
  intro p
  exact key p [] [1] nil

theorem evaluate_length (p : List P.Op) : (evaluate p).length = p.length + 1 := P.length_evaluate p

theorem at'_nonneg_of (c : Chain) (h : ∀ x ∈ c, (0 : Int) ≤ x) (i : Nat) : 0 ≤ at' c i := by
  unfold at'
  rw [List.getD_eq_getElem?_getD]
  cases hi : c[i]? with
  | none => simp
  | some v => simp; exact h v (List.mem_of_getElem? hi)

theorem evaluate_nonneg (p : List P.Op) : ∀ x ∈ evaluate p, (0 : Int) ≤ x := by
  refine evaluate_induct (fun _ c => ∀ x ∈ c, (0 : Int) ≤ x) (by simp) ?_ p
  intro p o c h x hx
  rcases List.mem_append.mp hx with hx | hx
  · exact h x hx
  · rw [List.mem_singleton.mp hx]
    exact Int.add_nonneg (at'_nonneg_of c h o.1) (at'_nonneg_of c h o.2)

theorem evaluate_map_norm (p : Prog) : evaluate (p.map norm) = evaluate p := by
  unfold evaluate
  rw [List.foldl_map]
  congr
  funext c o
  have : at' c (norm o).1 + at' c (norm o).2 = at' c o.1 + at' c o.2 := by
    unfold norm
    by_cases hle : o.1 ≤ o.2
    · rw [Nat.min_eq_left hle, Nat.max_eq_right hle]
    · rw [Nat.min_eq_right (Nat.le_of_not_le hle), Nat.max_eq_left (Nat.le_of_not_le hle), Int.add_comm]
  rw [this]

theorem cvOf_inj (c : Chain) (hnd : c.Nodup) (hnn : ∀ x ∈ c, (0 : Int) ≤ x) (i j : Nat)
    (hi : i < c.length) (hj : j < c.length) (h : cvOf c i = cvOf c j) : i = j := by
  unfold cvOf at h
  have h1 := at'_nonneg_of c hnn i
  have h2 := at'_nonneg_of c hnn j
  have : at' c i = at' c j := by rw [← Int.toNat_of_nonneg h1, ← Int.toNat_of_nonneg h2, h]
  rw [at'_eq_getElem c i hi, at'_eq_getElem c j hj] at this
  exact (List.getElem_inj hnd).mp this

/-- the naming constants the model and `P.Naming.nameOf` hard-wire are those found in the source
    (acc/pass/naming.go, acc/build.go; table regenerated by the extractor) -/
theorem naming_constants : AC.Gen.byteBits = 8 ∧ AC.Gen.byteFmt = "_%b" ∧ AC.Gen.xRunFmt = "x%d" ∧
    AC.Gen.indexFmt = "i%d" := by decide

theorem nameL_in (c : Chain) (i : Nat) (h : i < c.length) : nameL c i = nameOf (cvOf c) i := by
  unfold nameL identOf nameOf cvOf
  rw [naming_constants.1]
  simp only [h, if_true]
  by_cases a : bitLen (at' c i).toNat ≤ 8
  · simp [a]
  · simp only [a, if_false]
    by_cases b : (at' c i).toNat = 2 ^ bitLen (at' c i).toNat - 1
    · rw [if_pos b, if_pos b]; simp
    · rw [if_neg b, if_neg b]; simp

theorem nameL_out (c : Chain) (i : Nat) (h : ¬ i < c.length) : nameL c i = 'i' :: Nat.toDigits 10 i := by
  unfold nameL identOf
  simp [h]

theorem nameL_index (c : Chain) (i : Nat) (ds : List Char) (h : nameL c i = 'i' :: ds) :
    Nat.ofDigitChars 10 ds 0 = i := by
  by_cases hi : i < c.length
  · rw [nameL_in c i hi] at h
    exact (nameOf_faithful (cvOf c) i).2.2 ds h
  · rw [nameL_out c i hi] at h
    rw [← (List.cons.inj h).2]
    exact Nat.ofDigitChars_toDigits (by omega) (by omega)

theorem nameL_inj (c : Chain) (hnd : c.Nodup) (hnn : ∀ x ∈ c, (0 : Int) ≤ x) (a b : Nat)
    (h : nameL c a = nameL c b) : a = b := by
  by_cases hab : a < c.length ∧ b < c.length
  · rw [nameL_in c a hab.1, nameL_in c b hab.2] at h
    exact nameOf_inj (cvOf c) a b (cvOf_inj c hnd hnn a b hab.1 hab.2) h
  · -- one of the two is outside the chain and called `i<index>`, so both are
    have : ∃ ds, nameL c a = 'i' :: ds ∧ nameL c b = 'i' :: ds := by
      by_cases ha : a < c.length
      · have hb := nameL_out c b fun hb => hab ⟨ha, hb⟩
        exact ⟨_, h.trans hb, hb⟩
      · exact ⟨_, nameL_out c a ha, h.symm.trans (nameL_out c a ha)⟩
    obtain ⟨ds, ea, eb⟩ := this
    exact (nameL_index c a ds ea).symm.trans (nameL_index c b ds eb)

theorem nameL_shape (c : Chain) (i : Nat) :
    ∃ t ds, nameL c i = t :: ds ∧ (t = '_' ∨ t = 'x' ∨ t = 'i') ∧ ∀ x ∈ ds, x.isDigit = true := by
  by_cases h : i < c.length
  · rw [nameL_in c i h]; exact nameOf_shape (cvOf c) i
  · rw [nameL_out c i h]
    exact ⟨_, _, rfl, .inr (.inr rfl), fun x hx => Nat.isDigit_of_mem_toDigits (by omega) (by omega) hx⟩

theorem nameL_legal (c : Chain) (i : Nat) :
    ∃ ch cs, nameL c i = ch :: cs ∧ isIdStart ch = true ∧ ∀ x ∈ cs, isIdChar x = true := by
  obtain ⟨t, ds, e, ht, hd⟩ := nameL_shape c i
  exact ⟨t, ds, e, legal_of_shape ht hd⟩

theorem nameS_ne_empty (c : Chain) (i : Nat) : nameS c i ≠ "" := by
  obtain ⟨ch, cs, h, _, _⟩ := nameL_legal c i
  intro e
  have := congrArg String.toList e
  simp [nameS, h] at this

theorem nameL_faithful (c : Chain) (hnn : ∀ x ∈ c, (0 : Int) ≤ x) (i : Nat) (h : i < c.length) :
    (∀ ds, nameL c i = '_' :: ds → ((Nat.ofDigitChars 2 ds 0 : Nat) : Int) = at' c i) ∧
    (∀ ds, nameL c i = 'x' :: ds → at' c i = ((2 ^ Nat.ofDigitChars 10 ds 0 - 1 : Nat) : Int)) ∧
    (∀ ds, nameL c i = 'i' :: ds → Nat.ofDigitChars 10 ds 0 = i) := by
  rw [nameL_in c i h]
  obtain ⟨f1, f2, f3⟩ := nameOf_faithful (cvOf c) i
  have hv : ((cvOf c i : Nat) : Int) = at' c i := Int.toNat_of_nonneg (at'_nonneg_of c hnn i)
  refine ⟨?_, ?_, f3⟩
  · intro ds hd; rw [f1 ds hd]; exact hv
  · intro ds hd; rw [← hv, f2 ds hd]

/-- the assertion of `builder.add` ("only one of x and y should be an operator expression") is
    unreachable under the builder invariant: two operator operands would be the same pending index,
    read twice -/
theorem noAssert (name : Nat → String) (inst : Inst) (r : List Inst) (C : Prog)
    (bs : BS) (pend : Option Nat) (D : Prog) (env : Env)
    (hI : BInv name (inst :: r) C bs pend D env) :
    opExprX bs.E inst.op = .ok (opExpr bs.E inst.op) := by
  cases hop : inst.op with
  | dbl x => rfl
  | shl x s => rfl
  | add x y =>
    by_cases hb : (isOpE (bs.E x) && isOpE (bs.E y)) = true
    · exfalso
      simp only [Bool.and_eq_true] at hb
      have hin : ∀ z ∈ inputs inst.op, isOpE (bs.E z) = true → pend = some z := by
        intro z hz hzop
        rcases hI.atoms z with h | h | h
        · exact h
        · rw [atom_notOp h] at hzop; cases hzop
        · exact absurd hz (h inst (by simp))
      have hx := hin x (by simp [hop, inputs]) hb.1
      have hy := hin y (by simp [hop, inputs]) hb.2
      obtain rfl : x = y := by rw [hx] at hy; cases hy; rfl
      obtain ⟨_, _, nx, r', hr, hc, _⟩ := hI.pendSome x hx
      cases hr
      simp [hop, inputs] at hc
    · simp [opExprX, hb]

theorem canonOut_of_lt {seen : List Nat} {inst : Inst} {n : Nat} (hseen : ∀ k ∈ seen, k ≤ n)
    (hin : ∀ x ∈ inputs inst.op, x ≤ n) (ho : n < inst.out) : canonOut seen inst = true := by
  unfold canonOut
  rw [Bool.not_eq_true', Bool.or_eq_false_iff]
  constructor
  · cases hc : seen.contains inst.out with
    | false => rfl
    | true => exact absurd (hseen _ (List.contains_iff_mem.mp hc)) (Nat.not_le_of_lt ho)
  · cases hc : (inputs inst.op).contains inst.out with
    | false => rfl
    | true => exact absurd (hin _ (List.contains_iff_mem.mp hc)) (Nat.not_le_of_lt ho)

theorem loopX_ok (chain : List Int) (hinj : ∀ a b, nameS chain a = nameS chain b → a = b)
    (full : List Inst) (Cfin : Prog) :
    ∀ (rest pre : List Inst) (C : Prog) (seen : List Nat) (st : BS × Nat) (pend : Option Nat) (D : Prog) (env : Env),
    full = pre ++ rest → (∀ inst ∈ rest, ∀ x s, inst.op = .shl x s → 1 ≤ s) → cAll C rest = some Cfin →
    BInv (nameS chain) rest C st.1 pend D env →
    (∀ k ∈ seen, k ≤ C.length) →
    ∃ st' pend' D' env', loopX chain full seen st rest = .ok st' ∧
      BInv (nameS chain) [] Cfin st'.1 pend' D' env' := by
  intro rest
  induction rest with
  | nil =>
    intro pre C seen st pend D env _ _ hc hI _
    cases hc
    exact ⟨st, pend, D, env, rfl, hI⟩
  | cons inst r ih =>
    intro pre C seen st pend D env hf hs hc hI hseen
    rw [cAll] at hc
    split at hc
    · cases hc
    · rename_i C' hci
      obtain ⟨_, hbound, hout, hlen⟩ := apOp_of_cInst C C' inst (hs inst (by simp)) hci
      obtain ⟨pend1, D1, env1, hI1⟩ := bStep_inv (nameS chain) hinj (wantX chain (st.2 + 1)) full pre inst r
        C C' st.1 pend D env hf (hs inst (by simp)) hci hI
      have hstep : stepX chain full seen st inst r.head? = .ok
          (bStep (nameS chain) (wantX chain (st.2 + 1)) full st.1 inst r.head?,
           if inlineCond (wantX chain (st.2 + 1)) full inst r.head? then st.2 + 1 else 0) := by
        unfold stepX
        simp only [noAssert _ inst r C st.1 pend D env hI, canonOut_of_lt hseen hbound (hout ▸ hlen), if_true]
      simp only [loopX, hstep]
      refine ih (pre ++ [inst]) C' _ _ pend1 D1 env1 (by simp [hf])
        (fun i' hi' => hs i' (List.mem_cons_of_mem _ hi')) hc hI1 ?_
      intro k hk
      rcases List.mem_cons.mp hk with rfl | hk
      · exact Nat.le_of_eq hout
      · rcases List.mem_append.mp hk with hk | hk
        · exact Nat.le_trans (hbound k hk) (Nat.le_of_lt hlen)
        · exact Nat.le_trans (hseen k hk) (Nat.le_of_lt hlen)

theorem finish_concat (ss : List Stmt) (l : Stmt) : finish (ss ++ [l]) = ss ++ [⟨"", l.e⟩] := by
  cases ss with
  | nil => simp [finish]
  | cons a t =>
    have h1 : (a :: (t ++ [l])).dropLast = a :: t := by
      rw [← List.cons_append, List.dropLast_concat]
    have h2 : ∀ h, (a :: (t ++ [l])).getLast h = l := by
      intro h
      have : (a :: (t ++ [l])).getLast? = some l := by
        rw [← List.cons_append, List.getLast?_concat]
      rw [List.getLast?_eq_some_getLast h] at this
      exact Option.some.inj this
    show (a :: (t ++ [l])).dropLast ++ [⟨"", ((a :: (t ++ [l])).getLast (by simp)).e⟩] = _
    rw [h1, h2]

theorem finish_ne_nil (ss : List Stmt) : finish ss ≠ [] := by
  cases ss with
  | nil => simp [finish]
  | cons a t => simp [finish]

theorem finish_dropLast (ss : List Stmt) : (finish ss).dropLast = ss.dropLast := by
  rcases List.eq_nil_or_concat ss with rfl | ⟨l', b, rfl⟩
  · simp [finish]
  · rw [List.concat_eq_append, finish_concat, List.dropLast_concat, List.dropLast_concat]

theorem finish_last (ss : List Stmt) : ∃ e, (finish ss).getLast? = some ⟨"", e⟩ := by
  rcases List.eq_nil_or_concat ss with rfl | ⟨l', b, rfl⟩
  · exact ⟨.operand 0, by simp [finish]⟩
  · rw [List.concat_eq_append, finish_concat]; exact ⟨b.e, by simp⟩

theorem finish_run (ss : List Stmt) (D : Prog) (env : Env) (h : dRun [] [] ss = some (D, env))
    (hne : ∀ s ∈ ss, s.name ≠ "") :
    ∃ env', dRun [] [] (finish ss) = some (D, env') ∧
      ∀ s ∈ ss.dropLast, lookup env' s.name = lookup env s.name := by
  rcases List.eq_nil_or_concat ss with rfl | ⟨l', b, rfl⟩
  · simp only [dRun] at h
    cases h
    exact ⟨[("", 0)], rfl, nofun⟩
  · rw [List.concat_eq_append] at h hne ⊢
    rw [dRun_append] at h
    cases h1 : dRun [] [] l' with
    | none => rw [h1] at h; cases h
    | some r1 =>
      obtain ⟨D1, env1⟩ := r1
      rw [h1] at h
      dsimp only at h
      obtain ⟨p1, x, hd, _, hr⟩ := dRun_cons_some h
      simp only [dRun] at hr
      cases hr
      have hempty : lookup env1 "" = none := by
        cases hl : lookup env1 "" with
        | none => rfl
        | some v =>
          rcases dRun_keys l' [] [] _ h1 "" v hl with h2 | ⟨s, hs, hk⟩
          · cases h2
          · exact absurd hk (hne s (List.mem_append_left _ hs))
      have hfin : dRun D1 env1 [⟨"", b.e⟩] = some (D, ("", x) :: env1) := by
        simp only [dRun, hd, hempty]
      refine ⟨("", x) :: env1, by rw [finish_concat, dRun_append, h1]; exact hfin, ?_⟩
      -- a statement before the last is bound after `l'`, and neither last statement changes that
      intro s hs
      rw [List.dropLast_concat] at hs
      obtain ⟨v, hv⟩ := dRun_binds l' [] [] _ h1 s hs
      rw [dRun_mono _ D1 env1 _ hfin _ v hv, dRun_mono _ D1 env1 _ h _ v hv]

theorem finish_mem (ss : List Stmt) : ∀ st ∈ finish ss,
    (∃ st' ∈ ss, st.e = st'.e) ∨ st.e = .operand 0 := by
  intro st hst
  rcases List.eq_nil_or_concat ss with rfl | ⟨l', b, rfl⟩
  · right
    simp only [finish, List.mem_singleton] at hst
    rw [hst]
  · left
    rw [List.concat_eq_append, finish_concat] at hst
    rw [List.concat_eq_append]
    rcases List.mem_append.mp hst with h1 | h1
    · exact ⟨st, List.mem_append_left _ h1, rfl⟩
    · rw [List.mem_singleton.mp h1]
      exact ⟨b, by simp, rfl⟩

theorem buildX_spec (ir : IR) (p : Prog) (hs : ∀ inst ∈ ir, ∀ x s, inst.op = .shl x s → 1 ≤ s)
    (hc : cAll [] ir = some p) (hnd : (evaluate p).Nodup) :
    ∃ stmts env, buildX ir = .ok (finish stmts) ∧ dRun [] [] stmts = some (p.map norm, env) ∧
      ∀ s ∈ stmts, (∃ k, s.name = nameS (evaluate p) k ∧ lookup env s.name = some k ∧ k ≤ p.length) ∧
        IdsIn (fun n => ∃ j, n = nameS (evaluate p) j) s.e ∧ isOpE s.e = true := by
  have hinj : ∀ a b, nameS (evaluate p) a = nameS (evaluate p) b → a = b := fun a b h =>
    nameL_inj _ hnd (evaluate_nonneg p) a b (String.ofList_injective h)
  obtain ⟨st, pend, D, env, hloop, hI⟩ := loopX_ok (evaluate p) hinj ir p ir [] [] [] (initBS, 0)
    none [] [] rfl hs hc (.init _ ir) (fun k hk => nomatch hk)
  refine ⟨st.1.stmts, env, ?_, hI.final, ?_⟩
  · unfold buildX
    simp only [hc, hloop]
  · intro s hs'
    obtain ⟨⟨k, hk⟩, hids, hop⟩ := hI.stmts s hs'
    obtain ⟨v, hv⟩ := dRun_binds _ _ _ _ hI.final s hs'
    rw [hk] at hv ⊢
    obtain ⟨rfl, hle⟩ := hI.bound k v hv
    exact ⟨⟨v, rfl, hv, hle⟩, hids, hop⟩

/-- what the property theorems use of a successful build -/
structure Built (p : Prog) (s : Script) (env : Env) : Prop where
  run : dRun [] [] s = some (p.map norm, env)
  ne : s ≠ []
  last : ∃ e, s.getLast? = some ⟨"", e⟩
  named : ∀ st ∈ s.dropLast, ∃ k, st.name = nameS (evaluate p) k ∧ lookup env st.name = some k ∧ k ≤ p.length
  shape : ∀ st ∈ s, IdsIn (fun n => ∃ j, n = nameS (evaluate p) j) st.e ∧
    (isOpE st.e = true ∨ st.e = .operand 0)

theorem buildX_built (ir : IR) (p : Prog) (hs : ∀ inst ∈ ir, ∀ x s, inst.op = .shl x s → 1 ≤ s)
    (hc : cAll [] ir = some p) (hnd : (evaluate p).Nodup) :
    ∃ s env, buildX ir = .ok s ∧ Built p s env := by
  obtain ⟨stmts, env, hb, hrun, hn⟩ := buildX_spec ir p hs hc hnd
  have hne : ∀ st ∈ stmts, st.name ≠ "" := by
    intro st hst
    obtain ⟨⟨k, hk, _, _⟩, _⟩ := hn st hst
    rw [hk]; exact nameS_ne_empty _ _
  obtain ⟨env', hrun', henv⟩ := finish_run stmts _ env hrun hne
  refine ⟨finish stmts, env', hb, hrun', finish_ne_nil _, finish_last _, ?_, ?_⟩
  · intro st hst
    rw [finish_dropLast] at hst
    obtain ⟨⟨k, hk, hl, hle⟩, _⟩ := hn st ((List.dropLast_sublist _).subset hst)
    exact ⟨k, hk, by rw [henv st hst]; exact hl, hle⟩
  · intro st hst
    rcases finish_mem stmts st hst with ⟨st', hst', he⟩ | he
    · rw [he]; exact ⟨(hn st' hst').2.1, .inl (hn st' hst').2.2⟩
    · rw [he]; exact ⟨trivial, .inr rfl⟩

theorem built_of {ir : IR} {p : Prog} (hs : ∀ inst ∈ ir, ∀ x s, inst.op = .shl x s → 1 ≤ s)
    (hc : cAll [] ir = some p) (hnd : (evaluate p).Nodup) {s : Script} (hb : buildX ir = .ok s) :
    ∃ env, Built p s env := by
  obtain ⟨s', env, hb', h⟩ := buildX_built ir p hs hc hnd
  rw [hb] at hb'; cases hb'
  exact ⟨env, h⟩

theorem danglingFrom_cons (outs : List Nat) (inst : Inst) (r : IR) :
    danglingFrom outs (inst :: r) =
      ((inputs inst.op).all (fun x => outs.contains x) && danglingFrom (inst.out :: outs) r) := rfl

theorem danglingFrom_iff : ∀ (ir : IR) (outs : List Nat), danglingFrom outs ir = true ↔
    ∀ (n : Nat) (inst : Inst), ir[n]? = some inst → ∀ x ∈ inputs inst.op,
      x ∈ outs ∨ ∃ (m : Nat) (e : Inst), m < n ∧ ir[m]? = some e ∧ e.out = x := by
  intro ir
  induction ir with
  | nil => intro outs; simp [danglingFrom]
  | cons i0 r ih =>
    intro outs
    rw [danglingFrom_cons, Bool.and_eq_true, ih, List.all_eq_true]
    constructor
    · rintro ⟨h1, h2⟩ n inst hn x hx
      cases n with
      | zero => cases hn; exact .inl (List.contains_iff_mem.mp (h1 x hx))
      | succ n =>
        rcases h2 n inst hn x hx with h | ⟨m, e, hm, he, hx'⟩
        · rcases List.mem_cons.mp h with rfl | h
          · exact .inr ⟨0, i0, Nat.succ_pos n, rfl, rfl⟩
          · exact .inl h
        · exact .inr ⟨m + 1, e, Nat.succ_lt_succ hm, he, hx'⟩
    · intro h
      refine ⟨fun x hx => ?_, fun n inst hn x hx => ?_⟩
      · rcases h 0 i0 rfl x hx with h | ⟨m, e, hm, _, _⟩
        · exact List.contains_iff_mem.mpr h
        · exact absurd hm (Nat.not_lt_zero m)
      · rcases h (n + 1) inst hn x hx with h | ⟨m, e, hm, he, hx'⟩
        · exact .inl (List.mem_cons_of_mem _ h)
        · cases m with
          | zero => cases he; exact .inl (hx' ▸ List.mem_cons_self)
          | succ m => exact .inr ⟨m, e, Nat.lt_of_succ_lt_succ hm, he, hx'⟩

theorem headInst_inputs {full : Prog} {o : Nat × Nat} {r : Prog} {i : Nat} :
    ∀ x ∈ inputs (headInst full o r i).op, uses o x = true := by
  intro x hx
  have : x = o.1 ∨ x = o.2 := by
    rcases headInst_cases full o r i with ⟨_, _, e⟩ | ⟨_, _, e⟩ | ⟨_, _, e⟩
    · rw [e] at hx; simpa [inputs] using hx
    · rw [e] at hx; exact .inl (by simpa [inputs] using hx)
    · rw [e] at hx; exact .inl (by simpa [inputs] using hx)
  rcases this with rfl | rfl <;> simp [uses]

/-- `outs` holds every element up to the current position that is still read -/
theorem decompileFrom_noDangling (full : Prog) (fuel : Nat) (pre rest : Prog) (outs : List Nat)
    (hf : full = pre ++ rest) (hl : rest.length ≤ fuel) (hr : InRange rest pre.length)
    (hinv : ∀ x, x ≤ pre.length → x ∈ outs ∨ ∀ o ∈ rest, uses o x = false) :
    danglingFrom outs (decompileFrom full fuel rest pre.length) = true := by
  refine decompileFrom_induct full (fun pre rest l => full = pre ++ rest → ∀ outs,
    (∀ x, x ≤ pre.length → x ∈ outs ∨ ∀ o ∈ rest, uses o x = false) → danglingFrom outs l = true)
    (fun _ _ _ _ => rfl) ?_ fuel pre rest hl hr hf outs hinv
  intro pre o r tail hr ih hf outs hinv
  have hk := folded_le full o r pre.length
  rw [danglingFrom_cons, Bool.and_eq_true, List.all_eq_true]
  constructor
  · intro x hx
    have hu := headInst_inputs x hx
    have hx' : x ≤ pre.length := by
      simp only [uses, Bool.or_eq_true, beq_iff_eq] at hu
      rcases hu with rfl | rfl
      · exact hr.1
      · exact hr.2.1
    rcases hinv x hx' with h | h
    · exact List.contains_iff_mem.mpr h
    · rw [h o (by simp)] at hu; cases hu
  · refine ih (by rw [hf]; simp) _ ?_
    intro z hz
    rw [List.length_append, List.length_cons, List.length_take, Nat.min_eq_left hk, Nat.add_comm _ 1,
      ← Nat.add_assoc] at hz
    show z ∈ (pre.length + 1 + folded full o r pre.length) :: outs ∨ _
    by_cases e : z = pre.length + 1 + folded full o r pre.length
    · exact .inl (e ▸ List.mem_cons_self)
    · by_cases hz0 : z ≤ pre.length
      · rcases hinv z hz0 with h | h
        · exact .inl (List.mem_cons_of_mem _ h)
        · exact .inr fun o' ho' => h o' (List.mem_cons_of_mem _ (List.mem_of_mem_drop ho'))
      · -- a folded intermediate: read once, by the doubling that was folded
        right
        obtain ⟨t, rfl⟩ := Nat.exists_eq_add_of_le (Nat.succ_le_of_lt (Nat.lt_of_not_le hz0))
        have ht : t < folded full o r pre.length :=
          Nat.lt_of_le_of_ne (Nat.le_of_add_le_add_left hz) fun h => e (by rw [h])
        unfold folded at ht ⊢
        split at ht
        · rename_i hd
          rw [if_pos hd]
          exact runLen_unread full pre o r hf t ht
        · exact absurd ht (Nat.not_lt_zero t)

/-- **`CheckDanglingInputs (Decompile p) == nil`** for every in-range program -/
theorem decompile_noDangling (p : Prog) (h : InRange p 0) : danglingOK (decompile p) = true :=
  decompileFrom_noDangling p p.length [] p [0] rfl (Nat.le_refl _) h
    (by intro x hx; left; simp at hx; simp [hx])

/-- `Decompile` does not panic on an in-range program -/
theorem decompileX_ok (p : Prog) (h : InRange p 0) : decompileX p = .ok (decompile p) := by
  unfold decompileX
  rw [if_pos]
  rw [List.all_eq_true]
  intro o ho
  obtain ⟨j, hj⟩ := List.getElem?_of_mem ho
  have hb := (inRange_iff p 0).1 h j o hj
  have hjl := (List.getElem?_eq_some_iff.1 hj).1
  simp only [Bool.and_eq_true, decide_eq_true_eq]
  omega

end P.BuildX
