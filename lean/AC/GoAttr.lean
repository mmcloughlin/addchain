import Lean.Meta.Tactic.Simp.RegisterCommand
/-- The Go primitives (`AC/GoPrim.lean`, `AC/BigPrim.lean`) on the arguments the translated functions give
    them: a `do` block whose indices are in range becomes its value, a Boolean test a proposition. -/
register_simp_attr go_simp
