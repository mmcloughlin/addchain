import AC.Gram
/-! C03/C07 prototype: the full `UintLiteral` rule (hex / octal / decimal alternatives) agrees with
    the decimal-only rule on printed numbers. -/
namespace P.Peg

def isHexDigit (c : Char) : Bool := c.isDigit || ('a' ≤ c && c ≤ 'f') || ('A' ≤ c && c ≤ 'F')
def isOctDigit (c : Char) : Bool := '0' ≤ c && c ≤ '7'
def hexVal (c : Char) : Nat :=
  if c.isDigit then c.toNat - '0'.toNat else if 'a' ≤ c then c.toNat - 'a'.toNat + 10 else c.toNat - 'A'.toNat + 10
def baseVal (b : Nat) (ds : List Char) : Nat := ds.foldl (fun a c => b * a + hexVal c) 0

/-- `HexUintLiteral <- "0x" [0-9a-fA-F]+` with the `ParseUint(text, 0, 64)` action -/
def hexLit : P Nat := fun s e =>
  match s with
  | '0' :: 'x' :: r =>
    let ds := r.takeWhile isHexDigit
    if ds.isEmpty then (none, e)
    else
      let v := baseVal 16 ds
      (some (if v ≥ 2 ^ 64 then 0 else v, r.dropWhile isHexDigit), e || decide (v ≥ 2 ^ 64))
  | _ => (none, e)

/-- `OctalUintLiteral <- '0' [0-7]+` -/
def octLit : P Nat := fun s e =>
  match s with
  | '0' :: r =>
    let ds := r.takeWhile isOctDigit
    if ds.isEmpty then (none, e)
    else
      let v := baseVal 8 ds
      (some (if v ≥ 2 ^ 64 then 0 else v, r.dropWhile isOctDigit), e || decide (v ≥ 2 ^ 64))
  | _ => (none, e)

def uintLitFull : P Nat := por hexLit (por octLit uintLit)

theorem fails_hexLit_cons {c : Char} (h : c ≠ '0') (s : List Char) : Fails hexLit (c :: s) := ⟨fun e => by
  unfold hexLit
  split
  · rename_i heq; cases heq; exact absurd rfl h
  · rfl⟩
theorem fails_hexLit_zero {c : Char} (h : c ≠ 'x') (s : List Char) : Fails hexLit ('0' :: c :: s) := ⟨fun e => by
  unfold hexLit
  split
  · rename_i heq; cases heq; exact absurd rfl h
  · rfl⟩
theorem fails_hexLit_zero_nil : Fails hexLit ['0'] := ⟨fun _ => rfl⟩

theorem fails_octLit_cons {c : Char} (h : c ≠ '0') (s : List Char) : Fails octLit (c :: s) := ⟨fun e => by
  unfold octLit
  split
  · rename_i heq; cases heq; exact absurd rfl h
  · rfl⟩
theorem fails_octLit_zero {s : List Char} (h : ∀ a t, s = a :: t → isOctDigit a = false) :
    Fails octLit ('0' :: s) := by
  have : s.takeWhile isOctDigit = [] := by
    cases s with
    | nil => rfl
    | cons a t => simp [List.takeWhile, h a t rfl]
  exact ⟨fun e => by simp [octLit, this]⟩

theorem isDigit_of_isOctDigit {c : Char} (h : isOctDigit c = true) : c.isDigit = true := by
  simp only [isOctDigit, Bool.and_eq_true, decide_eq_true_eq] at h
  simp only [Char.isDigit, Bool.and_eq_true, decide_eq_true_eq]
  exact ⟨h.1, Nat.le_trans h.2 (by decide)⟩

/-- The hex and octal alternatives fail on a printed number: it is `0` or starts with another
    digit, and what follows is no `x` and no digit. -/
theorem uintLitFull_ok (n : Nat) (r : List Char) (e : Bool) (hn : n < 2 ^ 64) (hr : EndTok r) :
    uintLitFull (natStr n ++ r) e = (some (n, r), e) := by
  have hdec := reads_uintLit hn hr
  obtain ⟨c, t, hs, -, hz⟩ := natStr_head n
  rw [hs] at hdec ⊢
  by_cases h0 : c = '0'
  · obtain ⟨-, rfl⟩ := hz h0
    subst h0
    have hhex : Fails hexLit ('0' :: r) := by
      cases r with
      | nil => exact fails_hexLit_zero_nil
      | cons a r' => exact fails_hexLit_zero (fun h => by cases h; exact absurd (hr _ _ rfl) (by decide)) r'
    have hoct : Fails octLit ('0' :: r) := fails_octLit_zero fun a t h => by
      cases ho : isOctDigit a with
      | false => rfl
      | true => have := hr a t h; rw [isIdChar_of_isDigit (isDigit_of_isOctDigit ho)] at this; cases this
    exact (hhex.orElse (hoct.orElse hdec)).run e
  · exact ((fails_hexLit_cons h0 _).orElse ((fails_octLit_cons h0 _).orElse hdec)).run e

end P.Peg
