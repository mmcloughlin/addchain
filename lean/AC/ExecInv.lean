import AC.ListCell
/-! The invariant of `exec.Parallel.Execute`, over what its two transition systems have in common:
the occupancy `tk` of the semaphore channel (capacity `L`), the number `held` of tokens main has
re-acquired in its closing loop, the number `sp` of workers main has spawned, one phase and one
result slot per worker. `holds` tells the phases in which a worker holds a token, `filled` those in
which its slot is written. One lemma per kind of step. -/
namespace P.Cell
variable {φ : Type} {holds filled : φ → Bool} {idle : φ} {k L tk held sp : Nat} {ph : List φ}
  {rs : List (Option Nat)}

structure Inv (holds filled : φ → Bool) (idle : φ) (k L tk held sp : Nat) (ph : List φ)
    (rs : List (Option Nat)) : Prop where
  len_ph : ph.length = k
  len_rs : rs.length = k
  /-- channel occupancy = tokens held by workers + tokens re-acquired by main -/
  tok : tk = ph.countP holds + held
  tok_le : tk ≤ L
  /-- workers at or beyond the spawn pointer are idle, those before it are not -/
  idle_iff : ∀ (i : Nat) p, ph[i]? = some p → (p = idle ↔ sp ≤ i)
  spawn_le : sp ≤ k
  /-- a slot is filled exactly when its worker has stored, and with its own result -/
  slot : ∀ (i : Nat) p, ph[i]? = some p → rs[i]? = some (if filled p then some i else none)

namespace Inv

theorem init (hh : holds idle = false) (hf : filled idle = false) (k L : Nat) :
    Inv holds filled idle k L 0 0 0 (List.replicate k idle) (List.replicate k none) where
  len_ph := List.length_replicate
  len_rs := List.length_replicate
  tok := by rw [List.countP_replicate, hh]; rfl
  tok_le := Nat.zero_le L
  idle_iff i p hp := by
    rw [eq_of_getElem?_replicate hp]; exact ⟨fun _ => Nat.zero_le i, fun _ => rfl⟩
  spawn_le := Nat.zero_le k
  slot i p hp := by
    have hik : i < k := by simpa using (List.getElem_of_getElem? hp).1
    rw [eq_of_getElem?_replicate hp, hf, List.getElem?_replicate, if_pos hik]; rfl

theorem idle_of_le (h : Inv holds filled idle k L tk held sp ph rs) {i : Nat} (hik : i < k)
    (hle : sp ≤ i) : ph[i]? = some idle := by
  have hg := List.getElem?_eq_getElem (h.len_ph ▸ hik : i < ph.length)
  rw [hg, (h.idle_iff i _ hg).2 hle]

theorem lt_sp (h : Inv holds filled idle k L tk held sp ph rs) {i : Nat} {p : φ}
    (hp : ph[i]? = some p) (hne : p ≠ idle) : i < sp :=
  Nat.lt_of_not_le fun hle => hne ((h.idle_iff i p hp).2 hle)

theorem count_le (h : Inv holds filled idle k L tk held sp ph rs) : ph.countP holds ≤ L :=
  Nat.le_trans (Nat.le.intro h.tok.symm) h.tok_le

theorem held_le (h : Inv holds filled idle k L tk held sp ph rs) : held ≤ L :=
  Nat.le_trans (Nat.le_add_left ..) (h.tok ▸ h.tok_le)

theorem holder_or (h : Inv holds filled idle k L tk held sp ph rs) :
    (∃ i p, i < k ∧ ph[i]? = some p ∧ holds p = true ∧ 0 < tk) ∨ tk = held := by
  by_cases hact : 0 < ph.countP holds
  · have ⟨p, hmem, hp⟩ := List.countP_pos_iff.mp hact
    have ⟨i, hget⟩ := List.getElem?_of_mem hmem
    exact .inl ⟨i, p, h.len_ph ▸ (List.getElem_of_getElem? hget).1, hget, hp,
      h.tok ▸ Nat.lt_add_right _ hact⟩
  · exact .inr (by rw [h.tok, Nat.eq_zero_of_not_pos hact, Nat.zero_add])

/-- main spawns the next worker, which starts in phase `q` -/
theorem spawn (h : Inv holds filled idle k L tk held sp ph rs) (hsp : sp < k) (hl : tk < L) {q : φ}
    (hi : holds idle = false) (hq : holds q = true) (hf : filled q = filled idle) :
    Inv holds filled idle k L (tk + 1) held (sp + 1) (ph.set sp q) rs :=
  have hidle := h.idle_of_le hsp (Nat.le_refl sp)
  { len_ph := List.length_set.trans h.len_ph
    len_rs := h.len_rs
    tok := by
      rw [countP_set_gain holds hidle hi hq, Nat.add_right_comm]; exact congrArg (· + 1) h.tok
    tok_le := hl
    idle_iff := forall_set h.idle_iff
      (fun i p hij hp =>
        hp.trans ⟨fun hle => Nat.lt_of_le_of_ne hle (Ne.symm hij), Nat.le_of_succ_le⟩)
      ⟨fun e => Bool.noConfusion (hi.symm.trans (e ▸ hq)),
        fun hle => absurd hle (Nat.not_succ_le_self sp)⟩
    spawn_le := hsp
    slot := forall_set h.slot (fun _ _ _ hs => hs) (hf ▸ h.slot sp idle hidle) }

/-- main sends a token of its own -/
theorem send (h : Inv holds filled idle k L tk held sp ph rs) (hl : tk < L) :
    Inv holds filled idle k L (tk + 1) (held + 1) sp ph rs :=
  { h with tok := congrArg (· + 1) h.tok, tok_le := hl }

/-- worker `i` moves on from `p` to `q` without touching its slot; the channel follows `holds` -/
theorem move (h : Inv holds filled idle k L tk held sp ph rs) {i tk' : Nat} {p q : φ}
    (hp : ph[i]? = some p) (hpi : p ≠ idle) (hqi : q ≠ idle) (hf : filled q = filled p)
    (htk : tk' + (holds p).toNat = tk + (holds q).toNat) (hle : tk' ≤ L) :
    Inv holds filled idle k L tk' held sp (ph.set i q) rs :=
  { h with
    len_ph := List.length_set.trans h.len_ph
    tok := Nat.add_right_cancel (m := (holds p).toNat) <| by
      rw [htk, h.tok, Nat.add_right_comm, ← countP_set holds q hp, Nat.add_right_comm]
    tok_le := hle
    idle_iff := forall_set h.idle_iff (fun _ _ _ hs => hs)
      ⟨fun e => absurd e hqi, fun hle => absurd ((h.idle_iff i p hp).2 hle) hpi⟩
    slot := forall_set h.slot (fun _ _ _ hs => hs) (hf ▸ h.slot i p hp) }

/-- worker `i` writes its slot on the way from `p` to `q` -/
theorem store (h : Inv holds filled idle k L tk held sp ph rs) {i : Nat} {p q : φ}
    (hp : ph[i]? = some p) (hpi : p ≠ idle) (hqi : q ≠ idle) (hh : holds p = holds q)
    (hf : filled q = true) :
    Inv holds filled idle k L tk held sp (ph.set i q) (rs.set i (some i)) :=
  { h with
    len_ph := List.length_set.trans h.len_ph
    len_rs := List.length_set.trans h.len_rs
    tok := by rw [countP_set_same holds hp hh]; exact h.tok
    idle_iff := forall_set h.idle_iff (fun _ _ _ hs => hs)
      ⟨fun e => absurd e hqi, fun hle => absurd ((h.idle_iff i p hp).2 hle) hpi⟩
    slot := forall_set h.slot (fun j _ hji hs => (List.getElem?_set_ne (Ne.symm hji)).trans hs) <| by
      rw [hf]
      exact List.getElem?_set_self (h.len_rs.trans h.len_ph.symm ▸ (List.getElem_of_getElem? hp).1) }

/-- main only returns after `L` closing sends, which fill the channel: no worker holds a token -/
theorem count_zero (h : Inv holds filled idle k L tk L sp ph rs) : ph.countP holds = 0 := by
  have := h.tok
  have := h.tok_le
  omega

/-- when main returns, every worker is in the one phase `r` that is neither idle nor holds a token
    (by `count_zero`), and has written its slot -/
theorem return_complete (h : Inv holds filled idle k L tk L k ph rs) {r : φ}
    (hr : ∀ p, holds p = false → p ≠ idle → p = r) (hf : filled r = true) :
    ∀ i, i < k → rs[i]? = some (some i) ∧ ph[i]? = some r := by
  intro i hik
  have hl : i < ph.length := h.len_ph ▸ hik
  have hg := List.getElem?_eq_getElem hl
  have hrel : ph[i] = r :=
    hr _ (Bool.eq_false_iff.mpr fun hh => Nat.ne_of_gt (countP_pos holds hg hh) h.count_zero)
      fun e => Nat.not_le_of_gt hik ((h.idle_iff i _ hg).1 e)
  rw [hrel] at hg
  exact ⟨by rw [h.slot i r hg, hf]; rfl, hg⟩

end Inv
end P.Cell
