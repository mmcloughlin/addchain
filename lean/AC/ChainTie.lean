import AC.ProgramTie
import AC.BigintTie
import AC.BigintsTie
import AC.GoLoops
/-! # The translated functions of chain.go equal the hand-written model

The `chain*` functions (and `fnProduct`, `fnPlus`) of `AC/Gen/ProgramFns.lean` are regenerated from chain.go on
every run.  `Chain.Ops` is the function every validation theorem (C02, and through it C01, C08, C10,
C11) rests on: the model `P.ops` (two-pointer scan on an ascending prefix, quadratic scan otherwise)
is proved equal to the specification `opsSpec` in `AC/OpsEq.lean`; here the translated Go function is
proved equal to the model, for every chain and every position `k < len(c)`.  `Op`, `Program`, `Validate`,
`Produces` and `Superset` are built on it in the Go code and are tied in the same order. -/
namespace AC.ChainTie
open AC.Gen.Program AC.GoPrim AC.BigPrim AC.ProgramTie P

theorem getLast?_cons {α} (x : α) (xs : List α) (d : α) : (x :: xs).getLast? = some ((x :: xs).getLastD d) := by
  rw [List.getLastD_eq_getLast?, List.getLast?_eq_some_getLast (List.cons_ne_nil x xs)]; rfl

theorem bCmp_le_zero (a b : Int) : (decide (bCmp a b ≤ 0)) = decide (a ≤ b) := by
  simp only [bCmp_le_zero_iff]

theorem lt_of_add_succ {j n N : Nat} (h : j + (n + 1) = N) : j < N :=
  h ▸ Nat.lt_add_of_pos_right (Nat.succ_pos n)

theorem drop_eq_at'_cons (c : Chain) (i : Nat) (h : i < c.length) :
    c.drop i = at' c i :: c.drop (i + 1) := by
  rw [List.drop_eq_getElem_cons h]; simp [at', h]

theorem isAscending_loop_tie (c : Chain) : ∀ (n i : Nat), i + 1 + n = c.length →
    chainIsAscending_loop1 n ((i : Int) + 1) c = some (isAscending.go (at' c i) (c.drop (i + 1))) := by
  intro n
  induction n with
  | zero => intro i h; rw [List.drop_of_length_le (Nat.le_of_eq h.symm)]; rfl
  | succ n ih =>
    intro i h
    have h1 : i + 1 < c.length := lt_of_add_succ h
    have e : idx c ((i : Int) + 1) = some (at' c (i + 1)) := idx_at' c (i + 1) h1
    rw [drop_eq_at'_cons c (i + 1) h1]
    simp only [chainIsAscending_loop1, Int.add_sub_cancel, idx_at' c i (Nat.lt_of_succ_lt h1), e, go_simp,
      isAscending.go]
    by_cases hlt : at' c i < at' c (i + 1)
    · rw [if_neg (Int.not_le.2 hlt), decide_eq_true hlt]
      exact ih (i + 1) ((Nat.add_right_comm ..).trans h)
    · rw [if_pos (Int.not_lt.1 hlt), decide_eq_false hlt]; rfl

theorem isAscending_tie (c : Chain) : chainIsAscending c = some (isAscending c) := by
  cases c with
  | nil => rfl
  | cons x xs =>
    simp only [chainIsAscending, go_simp, isAscending]
    by_cases hx : x = 1
    · simp only [hx, not_true, if_false]
      exact isAscending_loop_tie (1 :: xs) xs.length 0 (Nat.add_comm ..)
    · simp only [hx, not_false_eq_true, if_true, beq_false_of_ne hx, Bool.false_and]

/-- One round with the pointers not yet crossed. The right side keeps the shape of the Go code, which tests the
    comparison twice in a row (`if cmp == 0 { append }`, then `if cmp <= 0 { l++ } else { r-- }`); in the first
    branch the second test is therefore already decided. -/
theorem chainOps_loop1_succ (n : Nat) (c : Chain) (k l r : Nat) (ops : List Op) (s : Int)
    (hlr : l ≤ r) (hr : r < c.length) (hk : k < c.length) :
    chainOps_loop1 (n + 1) c k (toGs ops) s l r =
      if at' c l + at' c r = at' c k then
        if at' c l + at' c r ≤ at' c k then
          chainOps_loop1 n c k (toGs (ops ++ [(l, r)])) (at' c l + at' c r) (l + 1) r
        else chainOps_loop1 n c k (toGs (ops ++ [(l, r)])) (at' c l + at' c r) l (r - 1)
      else if at' c l + at' c r ≤ at' c k then chainOps_loop1 n c k (toGs ops) (at' c l + at' c r) (l + 1) r
      else chainOps_loop1 n c k (toGs ops) (at' c l + at' c r) l (r - 1) := by
  simp only [chainOps_loop1, Int.ofNat_le.2 hlr, idx_bind, if_pos hr, if_pos hk,
    if_pos (Nat.lt_of_le_of_lt hlr hr), go_simp, toGs_append, toGs_cons, toGs_nil, toG]

/-- the right pointer runs down to `-1`, so it is kept as `rp - 1`; crossed pointers end the loop whatever fuel is left -/
theorem chainOps_loop1_done (n : Nat) (c : List Int) (k : Int) (ops : List GOp) (s : Int) (l rp : Nat)
    (h : rp ≤ l) : chainOps_loop1 n c k ops s (l : Int) ((rp : Int) - 1) = some ops := by
  have hlr : ¬ (l : Int) ≤ (rp : Int) - 1 := by omega
  cases n <;> simp only [chainOps_loop1, hlr, go_simp]

theorem twoPtr_crossed (c : Chain) (t : Int) (l rp : Nat) (h : rp ≤ l) : twoPtr c t l rp = [] := by
  cases rp with
  | zero => rw [twoPtr]
  | succ rp => rw [twoPtr, dif_neg (Nat.not_le.2 h)]

theorem twoPtr_loop_tie (c : Chain) (k : Nat) (hk : k < c.length) :
    ∀ (fuel l rp : Nat) (ops : List Op) (s : Int), rp ≤ fuel + l → rp ≤ k →
    chainOps_loop1 fuel c (k : Int) (toGs ops) s (l : Int) ((rp : Int) - 1) =
      some (toGs (ops ++ twoPtr c (at' c k) l rp)) := by
  intro fuel
  induction fuel with
  | zero =>
    intro l rp ops s hf _
    have hl : rp ≤ l := Nat.zero_add l ▸ hf
    rw [chainOps_loop1_done _ _ _ _ _ _ _ hl, twoPtr_crossed c _ l rp hl, List.append_nil]
  | succ fuel ih =>
    intro l rp ops s hf hrk
    by_cases hl : rp ≤ l
    · rw [chainOps_loop1_done _ _ _ _ _ _ _ hl, twoPtr_crossed c _ l rp hl, List.append_nil]
    · cases rp with
      | zero => exact absurd (Nat.zero_le l) hl
      | succ rp =>
        have hl' : l ≤ rp := Nat.le_of_lt_succ (Nat.lt_of_not_le hl)
        have hf' : rp + 1 ≤ fuel + l + 1 := Nat.add_right_comm fuel 1 l ▸ hf
        have ih1 := fun ops s => ih (l + 1) (rp + 1) ops s hf' hrk
        simp only [Int.natCast_add_one, Int.add_sub_cancel] at ih1 ⊢
        rw [twoPtr, dif_pos hl', chainOps_loop1_succ fuel c k l rp _ s hl' (Nat.lt_trans hrk hk) hk]
        by_cases hs : at' c l + at' c rp = at' c k
        · rw [if_pos hs, if_pos hs, if_pos (Int.le_of_eq hs), ih1, List.append_assoc]; rfl
        · rw [if_neg hs, if_neg hs]
          by_cases hlt : at' c l + at' c rp < at' c k
          · rw [if_pos hlt, if_pos (Int.le_of_lt hlt), ih1]
          · rw [if_neg hlt, if_neg fun hle => hlt (Int.lt_iff_le_and_ne.2 ⟨hle, hs⟩)]
            exact ih l rp ops _ (Nat.le_of_succ_le_succ hf') (Nat.le_of_succ_le hrk)

/-- the pairs the inner loop of the quadratic scan adds for a fixed `i`, scanning `j = lo, lo+1, ..` -/
def rowFrom (c : Chain) (k i lo n : Nat) : List Op :=
  ((List.range' lo n).filter (fun j => at' c i + at' c j == at' c k)).map (fun j => (i, j))

theorem rowFrom_succ (c : Chain) (k i lo n : Nat) :
    rowFrom c k i lo (n + 1) =
      (if at' c i + at' c lo = at' c k then [(i, lo)] else []) ++ rowFrom c k i (lo + 1) n := by
  unfold rowFrom
  rw [List.range'_succ, List.filter_cons]
  by_cases h : at' c i + at' c lo = at' c k
  · rw [if_pos (beq_iff_eq.2 h), if_pos h]; rfl
  · rw [if_neg (fun e => h (beq_iff_eq.1 e)), if_neg h]; rfl

theorem quad_inner_tie (c : Chain) (k : Nat) (hk : k < c.length) (i : Nat) :
    ∀ (n j : Nat) (ops : List Op) (s : Int), i ≤ j → j + n = k →
    ∃ s', chainOps_loop3 n (j : Int) c (k : Int) (toGs ops) s (i : Int) =
      some (toGs (ops ++ rowFrom c k i j n), s') := by
  intro n
  induction n with
  | zero => intro j ops s _ _; exact ⟨s, by rw [rowFrom, List.range'_zero, List.filter_nil, List.map_nil, List.append_nil]; rfl⟩
  | succ n ih =>
    intro j ops s hij hjk
    have hj : j < c.length := Nat.lt_trans (lt_of_add_succ hjk) hk
    have ih1 := fun ops => ih (j + 1) ops (at' c i + at' c j) (Nat.le_succ_of_le hij)
      ((Nat.add_right_comm ..).trans hjk)
    simp only [chainOps_loop3, idx_bind, if_pos hj, if_pos hk, if_pos (Nat.lt_of_le_of_lt hij hj), go_simp,
      rowFrom_succ, ← Int.natCast_add_one]
    by_cases hs : at' c i + at' c j = at' c k
    · obtain ⟨s', h'⟩ := ih1 (ops ++ [(i, j)])
      rw [toGs_snoc] at h'
      exact ⟨s', by rw [if_pos hs, if_pos hs, ← List.append_assoc]; exact h'⟩
    · obtain ⟨s', h'⟩ := ih1 ops
      exact ⟨s', by rw [if_neg hs, if_neg hs, List.nil_append]; exact h'⟩

theorem quad_outer_tie (c : Chain) (k : Nat) (hk : k < c.length) :
    ∀ (n i : Nat) (ops : List Op) (s : Int), i + n = k →
    chainOps_loop2 n (i : Int) c (k : Int) (toGs ops) s =
      some (toGs (ops ++ (List.range' i n).flatMap (fun i' => rowFrom c k i' i' (k - i')))) := by
  intro n
  induction n with
  | zero => intro i ops s _; rw [List.range'_zero, List.flatMap_nil, List.append_nil]; rfl
  | succ n ih =>
    intro i ops s hik
    obtain ⟨s', h'⟩ := quad_inner_tie c k hk i (k - i) i ops s (Nat.le_refl _)
      (Nat.add_sub_cancel' (Nat.le_of_lt (lt_of_add_succ hik)))
    simp only [chainOps_loop2, Int.toNat_sub, h', go_simp, List.range'_succ, List.flatMap_cons,
      ← Int.natCast_add_one, ← List.append_assoc]
    exact ih (i + 1) _ s' ((Nat.add_right_comm ..).trans hik)

theorem quadOps_rows (c : Chain) (k : Nat) :
    quadOps c k = (List.range' 0 k).flatMap (fun i => rowFrom c k i i (k - i)) := by
  unfold quadOps rowFrom
  rw [← List.range_eq_range', List.flatMap_def, List.flatMap_def]
  refine congrArg List.flatten (List.map_congr_left fun i _ => ?_)
  rw [← filter_le_range k i, List.filter_filter]
  simp only [Bool.and_comm]

/-- **`Chain.Ops` as translated from chain.go equals the model**, for every chain and every position
    inside it (never a panic, never out of fuel) -/
theorem ops_tie (c : Chain) (k : Nat) (hk : k < c.length) :
    chainOps c (k : Int) = some (toGs (ops c k)) := by
  unfold chainOps ops
  simp only [sliceTo_natCast c k (Nat.le_of_lt hk), isAscending_tie, go_simp]
  by_cases ha : isAscending (c.take k) = true
  · rw [if_pos ha, if_pos ha, Int.sub_zero, Int.sub_add_cancel, Int.toNat_natCast]
    exact twoPtr_loop_tie c k hk k 0 k [] 0 (Nat.le_add_right ..) (Nat.le_refl _)
  · rw [if_neg ha, if_neg ha, Int.sub_zero, Int.toNat_natCast, quadOps_rows]
    exact quad_outer_tie c k hk k 0 [] 0 (Nat.zero_add _)

theorem end_tie (c : Chain) : chainEnd c = c.getLast? := by
  unfold chainEnd
  rw [idx_len_sub_one]

/-- the format string of each validation error -/
def errFmt : VErr → String
  | .empty => "chain empty"
  | .notOne => "chain must start with 1"
  | .zero => "chain contains zero"
  | .dup => "chain contains duplicate: %v at positions %d and %d"
  | .noOp _ => "position %d is not the sum of previous entries"

/-- a result of the translated `Program` that reports the error `e` (and returns a nil program) -/
def IsErr (e : VErr) (r : List GOp × Option GoErr) : Prop :=
  r.1 = [] ∧ ∃ args, r.2 = some (errFmt e, args)

theorem op_tie (c : Chain) (k : Nat) (hk : k < c.length) :
    chainOp c (k : Int) = some (match (ops c k).head? with
      | some o => (toG o, none)
      | none => (⟨0, 0⟩, some ("position %d is not the sum of previous entries", [(k : Int)]))) := by
  unfold chainOp
  rw [ops_tie c k hk]
  cases ops c k with
  | nil => rfl
  | cons o os => simp only [toGs_cons, go_simp, List.head?_cons]

theorem dup_inner_tie (c : Chain) (i : Nat) (hi : i < c.length) :
    ∀ (n j : Nat), j + n = c.length →
    (((c.drop j).contains (at' c i) = true ∧
        ∃ args, chainProgram_loop2 n (j : Int) c (i : Int) = some (Sum.inl ([], some (errFmt .dup, args)))) ∨
     ((c.drop j).contains (at' c i) = false ∧
        chainProgram_loop2 n (j : Int) c (i : Int) = some (Sum.inr ()))) := by
  intro n
  induction n with
  | zero =>
    intro j hj
    have : c.length ≤ j := Nat.le_of_eq hj.symm
    rw [List.drop_of_length_le this]
    exact Or.inr ⟨rfl, rfl⟩
  | succ n ih =>
    intro j hj
    have hjl : j < c.length := lt_of_add_succ hj
    simp only [chainProgram_loop2, idx_bind, if_pos hi, if_pos hjl, go_simp, ← Int.natCast_add_one]
    rw [drop_eq_at'_cons c j hjl, List.contains_cons]
    by_cases heq : at' c i = at' c j
    · rw [if_pos heq, beq_iff_eq.2 heq]
      exact Or.inl ⟨rfl, _, rfl⟩
    · rw [if_neg heq, beq_false_of_ne heq, Bool.false_or]
      exact ih (j + 1) ((Nat.add_right_comm ..).trans hj)

theorem dup_outer_tie (c : Chain) : ∀ (n i : Nat), i + n = c.length →
    ((hasDup (c.drop i) = true ∧ ∃ r, chainProgram_loop1 n (i : Int) c = some r ∧ IsErr .dup r) ∨
     (hasDup (c.drop i) = false ∧
        chainProgram_loop1 n (i : Int) c = chainProgram_loop3 (c.length - 1) 1 c [])) := by
  intro n
  induction n with
  | zero =>
    intro i hi
    have hle : c.length ≤ i := Nat.le_of_eq hi.symm
    have hl : Int.toNat (len c - 1) = c.length - 1 := Int.toNat_sub c.length 1
    rw [List.drop_of_length_le hle]
    exact Or.inr ⟨rfl, by simp [chainProgram_loop1, hl]⟩
  | succ n ih =>
    intro i hi
    have hil : i < c.length := lt_of_add_succ hi
    have hd := drop_eq_at'_cons c i hil
    have hn : Int.toNat (len c - ((i : Int) + 1)) = c.length - (i + 1) := Int.toNat_sub c.length (i + 1)
    have hin := dup_inner_tie c i hil (c.length - (i + 1)) (i + 1) (Nat.add_sub_cancel' hil)
    rw [Int.natCast_add_one] at hin
    simp only [chainProgram_loop1, hn, bind, Option.bind, hd, hasDup]
    rcases hin with ⟨hc, args, hr⟩ | ⟨hc, hr⟩
    · rw [hr, hc]
      exact Or.inl ⟨rfl, ([], some (errFmt .dup, args)), rfl, rfl, args, rfl⟩
    · rw [hr, hc, Bool.false_or, ← Int.natCast_add_one]
      exact ih (i + 1) ((Nat.add_right_comm ..).trans hi)

theorem collect_loop_tie (c : Chain) : ∀ (n k : Nat) (p : List Op), k + n = c.length →
    ∃ r, chainProgram_loop3 n (k : Int) c (toGs p) = some r ∧
      match collect ((List.range' k n).map (fun k' => (ops c k').head?)) k with
      | .ok q => r = (toGs (p ++ q), none)
      | .error e => IsErr e r := by
  intro n
  induction n with
  | zero => intro k p _; exact ⟨_, rfl, congrArg (fun q => (toGs q, none)) (List.append_nil p).symm⟩
  | succ n ih =>
    intro k p hkl
    have hk : k < c.length := lt_of_add_succ hkl
    simp only [chainProgram_loop3, op_tie c k hk, go_simp, List.range'_succ, List.map_cons]
    cases (ops c k).head? with
    | none => exact ⟨_, rfl, rfl, _, rfl⟩
    | some o =>
      obtain ⟨r, hr, hm⟩ := ih (k + 1) (p ++ [o]) ((Nat.add_right_comm ..).trans hkl)
      rw [Int.natCast_add_one, toGs_snoc] at hr
      refine ⟨r, hr, ?_⟩
      rw [collect]
      cases hc : collect ((List.range' (k + 1) n).map (fun k' => (ops c k').head?)) (k + 1) with
      | ok q => rw [hc] at hm; rw [hm, List.append_assoc]; rfl
      | error e => rw [hc] at hm; exact hm

theorem firstOps_eq (c : Chain) :
    firstOps c = (List.range' 1 (c.length - 1)).map (fun k' => (ops c k').head?) := by
  unfold firstOps
  rw [List.range'_eq_map_range, List.map_map]
  apply List.map_congr_left
  intro a _
  simp [Nat.add_comm]

/-- **`Chain.Program` as translated from chain.go equals the model**: it never panics; on a valid
    chain it returns the model's program and a nil error, otherwise a nil program and the error
    the model reports (identified by its format string) -/
theorem program_tie (c : Chain) : ∃ r, chainProgram c = some r ∧
    (match program c with
     | .ok p => r = (toGs p, none)
     | .error e => IsErr e r) := by
  cases c with
  | nil => exact ⟨_, rfl, rfl, [], rfl⟩
  | cons x xs =>
    unfold chainProgram program
    simp only [go_simp, AC.BigintsTie.contains_tie, AC.BigintTie.zero_eq, List.isEmpty_cons, Int.sub_zero, ne_eq,
      at', List.getD_cons_zero]
    by_cases h1 : x = 1
    · rw [if_neg (not_not_intro h1), if_neg (not_not_intro h1)]
      by_cases h2 : (x :: xs).contains 0 = true
      · rw [if_pos h2, if_pos h2]; exact ⟨_, rfl, rfl, [], rfl⟩
      · rw [if_neg h2, if_neg h2]
        rcases dup_outer_tie (x :: xs) (x :: xs).length 0 (Nat.zero_add _) with ⟨hd, r, hr, hE⟩ | ⟨hd, hr⟩
        · rw [List.drop_zero] at hd
          rw [if_pos hd]; exact ⟨r, hr, hE⟩
        · rw [List.drop_zero] at hd
          rw [if_neg (ne_true_of_eq_false hd), firstOps_eq]
          exact hr ▸ collect_loop_tie (x :: xs) _ 1 [] (Nat.add_sub_cancel' (Nat.succ_le_succ (Nat.zero_le xs.length)))
    · rw [if_pos h1, if_pos h1]; exact ⟨_, rfl, rfl, [], rfl⟩

theorem validate_tie (c : Chain) :
    ∃ e, chainValidate c = some e ∧ (e = none ↔ validate c = true) := by
  obtain ⟨r, hr, hm⟩ := program_tie c
  refine ⟨r.2, by simp [chainValidate, hr], ?_⟩
  unfold validate
  cases hp : program c with
  | ok p => rw [hp] at hm; simp [hm]
  | error e => rw [hp] at hm; obtain ⟨_, args, h2⟩ := hm; simp [h2]

/-- a check that runs after `Validate`, and only if that returned nil -/
theorem validate_then (c : Chain) (rest : Option (Option GoErr)) (b : Bool)
    (h : validate c = true → ∃ e, rest = some e ∧ (e = none ↔ b = true)) :
    ∃ e, ((chainValidate c).bind fun err => if err.isSome = true then some err else rest) = some e ∧
      (e = none ↔ (validate c && b) = true) := by
  obtain ⟨e, he, hv⟩ := validate_tie c
  rw [he]
  cases e with
  | some err => exact ⟨_, rfl, nofun, fun h => hv.2 (Bool.and_eq_true_iff.1 h).1⟩
  | none =>
    obtain ⟨e, h1, h2⟩ := h (hv.1 rfl)
    exact ⟨e, h1, by rw [hv.1 rfl]; exact h2⟩

theorem produces_tie (c : Chain) (t : Int) :
    ∃ e, chainProduces c t = some e ∧ (e = none ↔ produces c t = true) := by
  refine validate_then c _ _ fun hval => ?_
  obtain ⟨l, hl⟩ := Option.isSome_iff_exists.1 (List.getLast?_isSome.2 ((validate_eq_true_iff c).1 hval).1)
  simp only [end_tie, hl, go_simp, bCmp_eq_zero_iff, ne_eq, Option.some.injEq]
  by_cases hlt : l = t
  · rw [if_neg (not_not_intro hlt)]; exact ⟨_, rfl, fun _ => hlt, fun _ => rfl⟩
  · rw [if_pos hlt]; exact ⟨_, rfl, nofun, fun h => absurd h hlt⟩

theorem superset_loop_tie (c : Chain) : ∀ (ts ts0 : List Int),
    ∃ e, chainSuperset_loop1 ts c ts0 = some e ∧ (e = none ↔ ts.all (fun t => c.contains t) = true) := by
  intro ts
  induction ts with
  | nil => intro ts0; exact ⟨none, rfl, fun _ => rfl, fun _ => rfl⟩
  | cons t ts ih =>
    intro ts0
    rw [chainSuperset_loop1, AC.BigintsTie.contains_tie, List.all_cons]
    cases c.contains t
    · exact ⟨_, rfl, nofun, nofun⟩
    · exact ih ts0

theorem superset_tie (c : Chain) (ts : List Int) :
    ∃ e, chainSuperset c ts = some e ∧ (e = none ↔ superset c ts = true) :=
  validate_then c _ _ fun _ => superset_loop_tie c ts ts

theorem product_loop_tie (last : Int) : ∀ (xs a b c : List Int),
    fnProduct_loop1 xs a b c last = some (c ++ xs.map (last * ·)) := by
  intro xs
  induction xs with
  | nil => intro a b c; simp [fnProduct_loop1]
  | cons x xs ih => intro a b c; simp [fnProduct_loop1, bMul, ih]

theorem product_tie (a b : Chain) : fnProduct a b = PX.productX a b := by
  unfold fnProduct PX.productX
  simp only [chainClone, AC.BigintsTie.clone_tie, go_simp, end_tie]
  cases a with
  | nil => rfl
  | cons x xs =>
    rw [getLast?_cons x xs 1]
    cases b with
    | nil => rfl
    | cons y ys => simp only [go_simp, product_loop_tie, product]; rfl

theorem plus_tie (a : Chain) (x : Int) : fnPlus a x = PX.plusX a x := by
  unfold fnPlus PX.plusX
  simp only [chainClone, AC.BigintsTie.clone_tie, go_simp, end_tie]
  cases a with
  | nil => rfl
  | cons y ys => rw [getLast?_cons y ys 1]; rfl
