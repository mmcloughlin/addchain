import AC.ExecInv
/-! # LTS of `exec.Parallel.Execute` with logger events, and trace acceptance (C12)

Mirrors /repo/alg/exec/exec.go:

```
sem := make(chan token, limit)
for i, a := range as { sem <- token{}; go func(i, a) {            -- main: spawn i
    logger.Printf("start: %s", a)                                   -- worker i: start
    rs[i] = Execute(n, a)                                           -- worker i: run, fin (FindChain), store
    logger.Printf("done: %s", a)                                    -- worker i: done
    <-sem }(i, a) }                                                 -- worker i: release
for i := 0; i < limit; i++ { sem <- token{} }                       -- main: waitSend × limit
return rs                                                           -- main: ret
```

`tokens` is the occupancy of the buffered channel `sem` (capacity `L`): a send is enabled iff
`tokens < L`, a receive iff `0 < tokens`. `rs[i] = some i` stands for "slot i holds
`Execute(n, aᵢ)`". Observable actions (`Act.ev`) are what the harness can record from outside:
the two logger lines, entry and exit of the algorithm's `FindChain`, and the return of `Execute`. -/
namespace P.ExecT

inductive Phase
  | idle | spawned | started | running | finished | stored | doneLogged | released
  deriving DecidableEq, Repr

inductive Main | spawning (j : Nat) | waiting (w : Nat) | returned deriving DecidableEq, Repr

structure St where
  main : Main
  tokens : Nat
  ph : List Phase           -- one per algorithm
  rs : List (Option Nat)    -- slot i holds `some i` (standing for `Execute(n, aᵢ)`) once stored
  deriving DecidableEq, Repr

def init (k : Nat) : St := ⟨.spawning 0, 0, List.replicate k .idle, List.replicate k none⟩

/-- what an observer outside `Execute` can see -/
inductive Event | start (i : Nat) | run (i : Nat) | fin (i : Nat) | done (i : Nat) | ret
  deriving DecidableEq, Repr

inductive Act
  | spawn (j : Nat) | toWait | waitSend | store (i : Nat) | release (i : Nat) | ev (e : Event)
  deriving DecidableEq, Repr

def obs : Act → Option Event | .ev e => some e | _ => none

/-- worker-local observable moves that touch neither the channel nor `rs` -/
inductive Local : Phase → Phase → (Nat → Event) → Prop
  | start : Local .spawned .started .start
  | run : Local .started .running .run
  | fin : Local .running .finished .fin
  | done : Local .stored .doneLogged .done

/-- transitions for `k` algorithms and limit `L` -/
inductive Step (k L : Nat) : St → Act → St → Prop
  | spawn (s : St) (j : Nat) : s.main = .spawning j → j < k → s.tokens < L →
      Step k L s (.spawn j)
        { s with main := .spawning (j + 1), tokens := s.tokens + 1, ph := s.ph.set j .spawned }
  | toWait (s : St) : s.main = .spawning k → Step k L s .toWait { s with main := .waiting 0 }
  | waitSend (s : St) (w : Nat) : s.main = .waiting w → w < L → s.tokens < L →
      Step k L s .waitSend { s with main := .waiting (w + 1), tokens := s.tokens + 1 }
  | ret (s : St) : s.main = .waiting L → Step k L s (.ev .ret) { s with main := .returned }
  | loc (s : St) (i : Nat) (p q : Phase) (e : Nat → Event) : i < k → Local p q e →
      s.ph[i]? = some p → Step k L s (.ev (e i)) { s with ph := s.ph.set i q }
  | store (s : St) (i : Nat) : i < k → s.ph[i]? = some .finished →
      Step k L s (.store i) { s with ph := s.ph.set i .stored, rs := s.rs.set i (some i) }
  | release (s : St) (i : Nat) : i < k → s.ph[i]? = some .doneLogged → 0 < s.tokens →
      Step k L s (.release i) { s with ph := s.ph.set i .released, tokens := s.tokens - 1 }

inductive Exec (k L : Nat) : St → List Act → St → Prop
  | nil (s : St) : Exec k L s [] s
  | snoc {s t u : St} {as : List Act} {a : Act} :
      Exec k L s as t → Step k L t a u → Exec k L s (as ++ [a]) u

def Reach (k L : Nat) (s : St) : Prop := ∃ as, Exec k L (init k) as s

theorem Exec.one {k L : Nat} {s t : St} {a : Act} (h : Step k L s a t) : Exec k L s [a] t :=
  Exec.snoc (Exec.nil s) h

theorem Exec.append {k L : Nat} {s t u : St} {as bs : List Act}
    (h1 : Exec k L s as t) (h2 : Exec k L t bs u) : Exec k L s (as ++ bs) u := by
  induction h2 with
  | nil => simpa using h1
  | snoc _ hs ih => rw [← List.append_assoc]; exact Exec.snoc ih hs

/-- the worker holds a token of the semaphore -/
def holds : Phase → Bool
  | .idle => false | .released => false | _ => true
/-- the worker has written its result slot -/
def filled : Phase → Bool
  | .stored => true | .doneLogged => true | .released => true | _ => false
def isRunning : Phase → Bool | .running => true | _ => false

def nHolding (s : St) : Nat := s.ph.countP holds
def nRunning (s : St) : Nat := s.ph.countP isRunning
def mainHeld (L : Nat) : Main → Nat | .waiting w => w | .returned => L | .spawning _ => 0
def spawnedCnt : Main → Nat → Nat | .spawning j, _ => j | _, k => k

theorem eq_released (p : Phase) (hh : holds p = false) (hi : p ≠ .idle) : p = .released := by
  cases p <;> simp [holds] at hh hi ⊢

theorem nRunning_le_nHolding (s : St) : nRunning s ≤ nHolding s :=
  List.countP_mono_left fun p _ hp => by cases p <;> simp [isRunning, holds] at hp ⊢

def Inv (k L : Nat) (s : St) : Prop :=
  Cell.Inv holds filled .idle k L s.tokens (mainHeld L s.main) (spawnedCnt s.main k) s.ph s.rs

theorem inv_init (k L : Nat) : Inv k L (init k) := Cell.Inv.init rfl rfl k L

/-- what the docstring of `Local` promises, in the terms of `Cell.Inv.move` -/
theorem Local.inert {p q : Phase} {e : Nat → Event} (h : Local p q e) :
    p ≠ .idle ∧ q ≠ .idle ∧ filled q = filled p ∧ holds p = holds q := by
  cases h <;> exact ⟨Phase.noConfusion, Phase.noConfusion, rfl, rfl⟩

theorem inv_step {k L : Nat} {s t : St} {a : Act} (hi : Inv k L s) (hs : Step k L s a t) :
    Inv k L t := by
  unfold Inv at hi ⊢
  cases hs with
  | spawn j hm hj hl => rw [hm] at hi; exact hi.spawn hj hl rfl rfl rfl
  | toWait hm | ret hm => rw [hm] at hi; exact hi
  | waitSend w hm hw hl => rw [hm] at hi; exact hi.send hl
  | loc i p q e hik hl hp =>
    obtain ⟨hpi, hqi, hf, hh⟩ := hl.inert
    exact hi.move hp hpi hqi hf (hh ▸ rfl) hi.tok_le
  | store i hik hp => exact hi.store hp (hpi := nofun) (hqi := nofun) (hh := rfl) (hf := rfl)
  | release i hik hp hpos =>
    exact hi.move hp (hpi := nofun) (hqi := nofun) (hf := rfl) (htk := Nat.sub_add_cancel hpos)
      (Nat.le_trans (Nat.sub_le ..) hi.tok_le)

theorem inv_exec {k L : Nat} {s t : St} {as : List Act} (hi : Inv k L s) (h : Exec k L s as t) :
    Inv k L t := by
  induction h with
  | nil => exact hi
  | snoc _ hs ih => exact inv_step ih hs

theorem inv_reach {k L : Nat} {s : St} (h : Reach k L s) : Inv k L s :=
  h.elim fun _ h => inv_exec (inv_init k L) h

/-- never more than `L` workers between acquiring and releasing a token -/
theorem limit_respected {k L : Nat} {s : St} (h : Reach k L s) : nHolding s ≤ L :=
  (inv_reach h).count_le

theorem Inv.nHolding_zero {k L : Nat} {s : St} (hi : Inv k L s) (hr : s.main = .returned) :
    nHolding s = 0 := by
  unfold Inv at hi
  rw [hr] at hi
  exact hi.count_zero

theorem Inv.return_complete {k L : Nat} {s : St} (hi : Inv k L s) (hr : s.main = .returned) :
    ∀ i, i < k → s.rs[i]? = some (some i) ∧ s.ph[i]? = some .released := by
  unfold Inv at hi
  rw [hr] at hi
  exact hi.return_complete eq_released rfl

/-- when `Execute` has returned, every slot i holds the result of algorithm i and every worker has
    released its token -/
theorem return_complete {k L : Nat} {s : St} (h : Reach k L s) (hr : s.main = .returned) :
    ∀ i, i < k → s.rs[i]? = some (some i) ∧ s.ph[i]? = some .released :=
  (inv_reach h).return_complete hr

/-- deadlock freedom: for `L ≥ 1` every reachable non-final state has an enabled step -/
theorem progress {k L : Nat} (hL : 1 ≤ L) {s : St} (h : Reach k L s) (hn : s.main ≠ .returned) :
    ∃ a t, Step k L s a t := by
  have hi := inv_reach h
  unfold Inv at hi
  rcases hi.holder_or with ⟨i, p, hik, hget, hpa, hpos⟩ | htok
  · -- a worker that holds a token can always move
    cases p with
    | idle => cases hpa
    | released => cases hpa
    | spawned => exact ⟨_, _, Step.loc s i _ _ _ hik Local.start hget⟩
    | started => exact ⟨_, _, Step.loc s i _ _ _ hik Local.run hget⟩
    | running => exact ⟨_, _, Step.loc s i _ _ _ hik Local.fin hget⟩
    | finished => exact ⟨_, _, Step.store s i hik hget⟩
    | stored => exact ⟨_, _, Step.loc s i _ _ _ hik Local.done hget⟩
    | doneLogged => exact ⟨_, _, Step.release s i hik hget hpos⟩
  · -- otherwise the channel holds only main's own tokens, fewer than `L` until it returns
    cases hm : s.main with
    | returned => exact absurd hm hn
    | spawning j =>
      rw [hm] at hi htok
      have hjk : j ≤ k := hi.spawn_le
      rcases Nat.lt_or_eq_of_le hjk with hj | rfl
      · exact ⟨_, _, Step.spawn s j hm hj (htok ▸ hL)⟩
      · exact ⟨_, _, Step.toWait s hm⟩
    | waiting w =>
      rw [hm] at hi htok
      have hwL : w ≤ L := hi.held_le
      rcases Nat.lt_or_eq_of_le hwL with hw | rfl
      · exact ⟨_, _, Step.waitSend s w hm hw (htok ▸ hw)⟩
      · exact ⟨_, _, Step.ret s hm⟩

/-- with limit 0 and at least one algorithm nothing can ever happen (the `-p 0` hang) -/
theorem limit_zero_blocks {k : Nat} (hk : 1 ≤ k) : ¬ ∃ a t, Step k 0 (init k) a t := by
  rintro ⟨a, t, h⟩
  have hph : ∀ (i : Nat) (p : Phase), (init k).ph[i]? = some p → p = Phase.idle :=
    fun i p hp => Cell.eq_of_getElem?_replicate hp
  cases h with
  | spawn j hm hj hl => exact absurd hl (Nat.not_lt_zero _)
  | toWait hm => cases hm; exact absurd hk (Nat.not_succ_le_zero 0)
  | waitSend w hm hw hl => exact absurd hl (Nat.not_lt_zero _)
  | ret hm => cases hm
  | loc i p q e hik hl hp => cases hph i p hp; cases hl
  | store i hik hp => cases hph i _ hp
  | release i hik hp hpos => cases hph i _ hp

/-- only `store j` changes slot `j` (and it writes `some j`) -/
theorem slots_private {k L : Nat} {s t : St} {a : Act} (h : Step k L s a t) (j : Nat)
    (hne : t.rs[j]? ≠ s.rs[j]?) : a = .store j ∧ t.rs[j]? = some (some j) := by
  cases h with
  | store i hik hp =>
    -- `set i` changes nothing at another index, and nothing at all beyond the end of the list
    have hij : i = j := Decidable.by_contra fun h => hne (List.getElem?_set_ne h)
    subst hij
    have hil : i < s.rs.length := Decidable.by_contra fun h =>
      hne (congrArg (·[i]?) (List.set_eq_of_length_le (Nat.le_of_not_lt h)))
    exact ⟨rfl, List.getElem?_set_self hil⟩
  | _ => exact absurd rfl hne

/-- main performs `n` further spawns -/
def spawnN (k L : Nat) : Nat → St → Option St
  | 0, s => some s
  | n + 1, s =>
    match s.main with
    | .spawning j =>
      if j < k ∧ s.tokens < L then
        spawnN k L n
          { s with main := .spawning (j + 1), tokens := s.tokens + 1, ph := s.ph.set j .spawned }
      else none
    | _ => none

/-- main catches up (lazily) so that worker `i` has been spawned -/
def catchUp (k L : Nat) (s : St) (i : Nat) : Option St :=
  match s.main with
  | .spawning j => spawnN k L (i + 1 - j) s
  | _ => some s

theorem spawnN_succ {k L : Nat} {s : St} {j : Nat} (n : Nat) (hm : s.main = .spawning j)
    (hj : j < k) (ht : s.tokens < L) :
    spawnN k L (n + 1) s = spawnN k L n
      { s with main := .spawning (j + 1), tokens := s.tokens + 1, ph := s.ph.set j .spawned } := by
  simp only [spawnN, hm, hj, ht, and_self, if_true]

theorem catchUp_spawning {k L : Nat} {s : St} {j : Nat} (i : Nat) (hm : s.main = .spawning j) :
    catchUp k L s i = spawnN k L (i + 1 - j) s := by
  simp only [catchUp, hm]

def setPh (s : St) (i : Nat) (q : Phase) : St := { s with ph := s.ph.set i q }

/-- One observable event. Silent steps are scheduled canonically: main spawns as late as
    possible, a worker stores right before its `done` line and releases right after it, main
    performs its `L` closing sends right before returning.

    Why this loses no behaviour (completeness, argued here, not proved — only soundness
    `stepEv_sound` is needed for the theorems to apply to an accepted trace): in any execution with
    the same observable trace, at every point the canonical run has spawned no more and released no
    fewer workers, so its channel occupancy is ≤ the real one; a spawn or closing send that was
    enabled in the real run is therefore still enabled when the canonical run performs it later. -/
def stepEv (k L : Nat) (s : St) : Event → Option St
  | .start i =>
    if i < k then
      match catchUp k L s i with
      | some s' => if s'.ph[i]? = some .spawned then some (setPh s' i .started) else none
      | none => none
    else none
  | .run i => if i < k ∧ s.ph[i]? = some .started then some (setPh s i .running) else none
  | .fin i => if i < k ∧ s.ph[i]? = some .running then some (setPh s i .finished) else none
  | .done i =>
    if i < k ∧ s.ph[i]? = some .finished ∧ 0 < s.tokens then
      some { s with ph := ((s.ph.set i .stored).set i .doneLogged).set i .released,
                    rs := s.rs.set i (some i), tokens := s.tokens - 1 }
    else none
  | .ret =>
    if s.main = .spawning k ∧ s.tokens = 0 then some { s with main := .returned, tokens := L }
    else none

def allFilled (k : Nat) (s : St) : Bool := (List.range k).all fun i => s.rs[i]? == some (some i)

def isFinal (k : Nat) (s : St) : Bool := s.main == .returned && allFilled k s

def acceptsFrom (k L : Nat) : St → List Event → Nat → Option Nat
  | s, [], n => if isFinal k s then none else some n
  | s, e :: es, n =>
    match stepEv k L s e with
    | none => some n
    | some t => acceptsFrom k L t es (n + 1)

/-- index of the first event that is not an enabled transition (`trace.length` if the trace is
    executable but does not end in `returned` with all slots filled); `none` = accepted -/
def accepts (k L : Nat) (trace : List Event) : Option Nat := acceptsFrom k L (init k) trace 0

def runEv (k L : Nat) : St → List Event → Option St
  | s, [] => some s
  | s, e :: es => (stepEv k L s e).bind fun t => runEv k L t es

theorem runEv_append (k L : Nat) (es fs : List Event) : ∀ (s : St),
    runEv k L s (es ++ fs) = (runEv k L s es).bind fun t => runEv k L t fs := by
  induction es with
  | nil => intro s; rfl
  | cons e es ih =>
    intro s
    show (stepEv k L s e).bind _ = ((stepEv k L s e).bind _).bind _
    rw [Option.bind_assoc]
    exact congrArg _ (funext ih)

theorem acceptsFrom_eq_none {k L : Nat} (es : List Event) : ∀ (s : St) (n : Nat),
    acceptsFrom k L s es n = none ↔ ∃ t, runEv k L s es = some t ∧ isFinal k t = true := by
  induction es with
  | nil =>
    intro s n
    show (if isFinal k s then none else some n) = none ↔ ∃ t, some s = some t ∧ _
    constructor
    · intro h; split at h
      · exact ⟨s, rfl, ‹_›⟩
      · cases h
    · rintro ⟨t, ht, hf⟩; cases ht; exact if_pos hf
  | cons e es ih =>
    intro s n
    unfold acceptsFrom runEv
    cases stepEv k L s e with
    | none => exact ⟨nofun, nofun⟩
    | some t => exact ih t (n + 1)

theorem isFinal_main {k : Nat} {s : St} (h : isFinal k s = true) : s.main = .returned :=
  of_decide_eq_true (Bool.and_eq_true_iff.mp h).1

theorem isFinal_of {k : Nat} {s : St} (hm : s.main = .returned)
    (hrs : ∀ i, i < k → s.rs[i]? = some (some i)) : isFinal k s = true :=
  Bool.and_eq_true_iff.mpr ⟨decide_eq_true hm, List.all_eq_true.mpr fun i hi =>
    beq_iff_eq.mpr (hrs i (List.mem_range.mp hi))⟩

theorem spawnN_sound {k L : Nat} (n : Nat) : ∀ (s t : St), spawnN k L n s = some t →
    ∃ as, Exec k L s as t ∧ as.filterMap obs = [] := by
  induction n with
  | zero => intro s t h; cases h; exact ⟨[], Exec.nil _, rfl⟩
  | succ n ih =>
    intro s t h
    unfold spawnN at h
    split at h
    · rename_i j hm
      obtain ⟨hc, h⟩ := Option.ite_none_right_eq_some.mp h
      obtain ⟨as, he, ho⟩ := ih _ _ h
      exact ⟨.spawn j :: as, Exec.append (Exec.one (Step.spawn s j hm hc.1 hc.2)) he, ho⟩
    · cases h

theorem catchUp_sound {k L : Nat} {s t : St} {i : Nat} (h : catchUp k L s i = some t) :
    ∃ as, Exec k L s as t ∧ as.filterMap obs = [] := by
  unfold catchUp at h
  split at h
  · exact spawnN_sound _ _ _ h
  · cases h; exact ⟨[], Exec.nil _, rfl⟩

/-- main's closing loop: `n` sends into the empty channel -/
theorem waitSends {k L : Nat} (ph : List Phase) (rs : List (Option Nat)) (n : Nat) (h : n ≤ L) :
    ∃ as, Exec k L ⟨.waiting 0, 0, ph, rs⟩ as ⟨.waiting n, n, ph, rs⟩ ∧ as.filterMap obs = [] := by
  induction n with
  | zero => exact ⟨[], Exec.nil _, rfl⟩
  | succ n ih =>
    obtain ⟨as, he, ho⟩ := ih (Nat.le_of_succ_le h)
    exact ⟨as ++ [.waitSend], Exec.snoc he (Step.waitSend ⟨.waiting n, n, ph, rs⟩ n rfl h h),
      by rw [List.filterMap_append, ho]; rfl⟩

theorem stepEv_sound {k L : Nat} {s t : St} {e : Event} (h : stepEv k L s e = some t) :
    ∃ as, Exec k L s as t ∧ as.filterMap obs = [e] := by
  cases e with
  | start i =>
    obtain ⟨hik, h⟩ := Option.ite_none_right_eq_some.mp h
    cases hc : catchUp k L s i with
    | none => rw [hc] at h; cases h
    | some s' =>
      rw [hc] at h
      obtain ⟨hp, ht⟩ := Option.ite_none_right_eq_some.mp h
      cases ht
      obtain ⟨as, he, ho⟩ := catchUp_sound hc
      exact ⟨as ++ [.ev (.start i)], Exec.snoc he (Step.loc s' i _ _ _ hik Local.start hp),
        by rw [List.filterMap_append, ho]; rfl⟩
  | run i =>
    obtain ⟨hc, ht⟩ := Option.ite_none_right_eq_some.mp h
    cases ht
    exact ⟨[.ev (.run i)], Exec.one (Step.loc s i _ _ _ hc.1 Local.run hc.2), rfl⟩
  | fin i =>
    obtain ⟨hc, ht⟩ := Option.ite_none_right_eq_some.mp h
    cases ht
    exact ⟨[.ev (.fin i)], Exec.one (Step.loc s i _ _ _ hc.1 Local.fin hc.2), rfl⟩
  | done i =>
    obtain ⟨⟨hik, hp, hpos⟩, ht⟩ := Option.ite_none_right_eq_some.mp h
    cases ht
    have hil := (List.getElem_of_getElem? hp).1
    have s1 := Step.store (k := k) (L := L) s i hik hp
    have s2 := Step.loc (k := k) (L := L)
      { s with ph := s.ph.set i .stored, rs := s.rs.set i (some i) } i _ _ _ hik Local.done
      (List.getElem?_set_self hil)
    have s3 := Step.release (k := k) (L := L)
      { s with ph := (s.ph.set i .stored).set i .doneLogged, rs := s.rs.set i (some i) } i hik
      (List.getElem?_set_self (by rw [List.length_set]; exact hil)) hpos
    exact ⟨[.store i, .ev (.done i), .release i],
      Exec.snoc (Exec.snoc (Exec.one s1) s2) s3, rfl⟩
  | ret =>
    obtain ⟨⟨hm, ht⟩, h⟩ := Option.ite_none_right_eq_some.mp h
    obtain ⟨m, tk, ph, rs⟩ := s
    cases h; cases hm; cases ht
    obtain ⟨as, he, ho⟩ := waitSends (k := k) ph rs L (Nat.le_refl L)
    exact ⟨.toWait :: as ++ [.ev .ret],
      Exec.snoc (Exec.append (Exec.one (Step.toWait _ rfl)) he) (Step.ret _ rfl),
      by rw [List.filterMap_append, List.filterMap_cons, ho]; rfl⟩

theorem runEv_sound {k L : Nat} (es : List Event) : ∀ (s t : St), runEv k L s es = some t →
    ∃ as, Exec k L s as t ∧ as.filterMap obs = es := by
  induction es with
  | nil => intro s t h; cases h; exact ⟨[], Exec.nil _, rfl⟩
  | cons e es ih =>
    intro s t h
    obtain ⟨u, hu, ht⟩ := Option.bind_eq_some_iff.mp h
    obtain ⟨as1, hx1, ho1⟩ := stepEv_sound hu
    obtain ⟨as2, hx2, ho2⟩ := ih u t ht
    exact ⟨as1 ++ as2, Exec.append hx1 hx2, by rw [List.filterMap_append, ho1, ho2]; rfl⟩

theorem Inv.stepEv {k L : Nat} {s t : St} {e : Event} (hi : Inv k L s)
    (h : stepEv k L s e = some t) : Inv k L t :=
  (stepEv_sound h).elim fun _ hx => inv_exec hi hx.1

/-- an accepted trace is the observable part of an execution that ends in `returned` -/
theorem accepts_sound {k L : Nat} {tr : List Event} (h : accepts k L tr = none) :
    ∃ as s, Exec k L (init k) as s ∧ as.filterMap obs = tr ∧ s.main = .returned :=
  have ⟨t, ht, hf⟩ := (acceptsFrom_eq_none tr (init k) 0).mp h
  have ⟨as, hx, ho⟩ := runEv_sound tr (init k) t ht
  ⟨as, t, hx, ho, isFinal_main hf⟩

def isRunEv : Event → Bool | .run _ => true | _ => false
def isFinEv : Event → Bool | .fin _ => true | _ => false
def nRun (tr : List Event) : Nat := tr.countP isRunEv
def nFin (tr : List Event) : Nat := tr.countP isFinEv

theorem step_running {k L : Nat} {s t : St} {a : Act} (hi : Inv k L s) (h : Step k L s a t) :
    nRun ([a].filterMap obs) + nRunning s = nFin ([a].filterMap obs) + nRunning t := by
  cases h with
  | spawn j hm hj hl =>
    have hidle := hi.idle_of_le hj (by rw [hm]; exact Nat.le_refl j)
    exact congrArg (0 + ·) (Cell.countP_set_same isRunning (q := .spawned) hidle rfl).symm
  | toWait hm => rfl
  | waitSend w hm hw hl => rfl
  | ret hm => rfl
  | loc i p q e hik hl hp =>
    have h1 := Cell.countP_set isRunning q hp
    have h2 : nRun [e i] + (isRunning p).toNat = nFin [e i] + (isRunning q).toNat := by
      cases hl <;> rfl
    show nRun [e i] + s.ph.countP isRunning = nFin [e i] + (s.ph.set i q).countP isRunning
    omega
  | store i hik hp =>
    exact congrArg (0 + ·) (Cell.countP_set_same isRunning (q := .stored) hp rfl).symm
  | release i hik hp hpos =>
    exact congrArg (0 + ·) (Cell.countP_set_same isRunning (q := .released) hp rfl).symm

/-- #(run events) − #(fin events) = number of workers inside `FindChain` -/
theorem running_count {k L : Nat} {s : St} {as : List Act} (h : Exec k L (init k) as s) :
    nRun (as.filterMap obs) = nFin (as.filterMap obs) + nRunning s := by
  induction h with
  | nil =>
    show 0 = 0 + (List.replicate k Phase.idle).countP isRunning
    rw [List.countP_replicate]; rfl
  | snoc hx hs ih =>
    have := step_running (inv_exec (inv_init k L) hx) hs
    rw [List.filterMap_append]
    unfold nRun nFin at *
    rw [List.countP_append, List.countP_append]
    omega

/-- on an accepted trace, at every prefix at most `L` algorithms are inside `FindChain` -/
theorem accepted_limit {k L : Nat} {tr : List Event} (h : accepts k L tr = none) :
    ∀ p, p <+: tr → nRun p ≤ nFin p + L := by
  rintro p ⟨r, rfl⟩
  obtain ⟨t, ht, _⟩ := (acceptsFrom_eq_none _ (init k) 0).mp h
  rw [runEv_append] at ht
  obtain ⟨u, hu, _⟩ := Option.bind_eq_some_iff.mp ht
  obtain ⟨as, hx, rfl⟩ := runEv_sound p (init k) u hu
  have hc := running_count hx
  have h1 := nRunning_le_nHolding u
  have h2 := limit_respected ⟨as, hx⟩
  omega

end P.ExecT
