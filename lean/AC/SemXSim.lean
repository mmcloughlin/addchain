import AC.SemX
/-! C03: the IR pipeline (translate → compile → evaluate) refines the direct semantics, over the model
of `AC/SemX.lean`.  The translator emits all instructions of an expression before any of them is
compiled, the direct semantics evaluates as it goes: `Sim` relates the two for one piece of emitted
code, `Sim.append` puts pieces in sequence, and there is one lemma per kind of emitted instruction. -/
namespace P.SemX

theorem wrap64_nonneg {x : Int} (h0 : 0 ≤ x) (h : x < B63) : wrap64 x = x :=
  wrap64_id (Int.le_trans (by decide) h0) h

/-- `w` more operations fit after a program of length `l`: the translator's counter, which is
    `l + 1`, stays below `2^63`. -/
def Fits (l w : Nat) : Prop := (l : Int) + w + 1 < B63

namespace Fits

theorem left {l a b : Nat} (h : Fits l (a + b)) : Fits l a := by
  unfold Fits at *; omega

theorem right {l l' a b : Nat} (h : Fits l (a + b)) (hl : l' = l + a) : Fits l' b := by
  unfold Fits at *; omega

theorem nil {w : Nat} (h : (w : Int) + 1 < B63) : Fits ([] : Prog).length w := by
  unfold Fits; rw [List.length_nil]; omega

theorem of_counter {l w : Nat} {n : Int} (hn : n = l + 1) (h : n + w < B63) : Fits l w := by
  unfold Fits; omega

theorem wrap_succ {l : Nat} {n : Int} (h : Fits l 1) (hn : n = l + 1) :
    wrap64 (n + 1) = l + 1 + 1 := by
  rw [hn]
  exact wrap64_nonneg (by omega) (by unfold Fits at h; omega)

/-- the counter and the output index the translator computes for a shift -/
theorem wrap_shift {l s : Nat} {n : Int} (h : Fits l s) (hn : n = l + 1) :
    wrap64 (n + wrap64 s) = l + s + 1 ∧ wrap64 (wrap64 (n + wrap64 s) - 1) = l + s := by
  have h0 : (0 : Int) ≤ l + s := Int.add_nonneg (Int.natCast_nonneg l) (Int.natCast_nonneg s)
  rw [hn, wrap64_nonneg (Int.natCast_nonneg s) (by unfold Fits at h; omega), Int.add_right_comm,
    wrap64_nonneg (Int.add_nonneg h0 (by decide)) h, Int.add_sub_cancel,
    wrap64_nonneg h0 (Int.lt_trans (Int.lt_succ _) h)]
  exact ⟨rfl, rfl⟩

end Fits

/-- What compiling the translator's output `r = (Δ, n', x)` from program `p` has to do with the
    outcome `d` of the direct semantics from `mk p`. A compile error means `d` rejects, and the
    output-index cross-check fires only at a shift by 0; a compiled program `p'` means `d` is `mk p'`
    with result `x`, the translator's counter `n'` is again one more than the length of the program,
    and `w` operations were appended. -/
structure Sim (p : Prog) (w : Nat) (r : List Inst × Int × Int) (d : Option (St × Int)) : Prop where
  intro ::
  error : ∀ err, cAll p r.1 = .error err →
    d = none ∧ (err = .outputindex → ∃ i ∈ r.1, ∃ a, i.op = .shl a 0)
  ok : ∀ p', cAll p r.1 = .ok p' →
    d = some (mk p', r.2.2) ∧ r.2.1 = p'.length + 1 ∧ p'.length = p.length + w

namespace Sim

theorem of_error {p : Prog} {w : Nat} {r : List Inst × Int × Int} {e : Err} (hc : cAll p r.1 = .error e)
    (hz : e = .outputindex → ∃ i ∈ r.1, ∃ a, i.op = .shl a 0) : Sim p w r none :=
  ⟨fun err h => (by rw [hc] at h; cases h; exact ⟨rfl, hz⟩), fun p' h => by rw [hc] at h; cases h⟩

theorem of_ok {p p' : Prog} {w : Nat} {r : List Inst × Int × Int} (hc : cAll p r.1 = .ok p')
    (hn : r.2.1 = p'.length + 1) (hl : p'.length = p.length + w) : Sim p w r (some (mk p', r.2.2)) :=
  ⟨fun err h => (by rw [hc] at h; cases h), fun q h => by rw [hc] at h; cases h; exact ⟨rfl, hn, hl⟩⟩

theorem nil {p : Prog} {n x : Int} (hn : n = p.length + 1) : Sim p 0 ([], n, x) (some (mk p, x)) :=
  ⟨fun _ h => (nomatch h), fun _ h => by cases h; exact ⟨rfl, hn, rfl⟩⟩

theorem append {p w1 w2 Δ1 Δ2 n1 n2 a x} {d1 : Option (St × Int)}
    {k : St → Int → Option (St × Int)} (h1 : Sim p w1 (Δ1, n1, a) d1)
    (h2 : ∀ p1, n1 = p1.length + 1 → p1.length = p.length + w1 →
      Sim p1 w2 (Δ2, n2, x) (k (mk p1) a)) :
    Sim p (w1 + w2) (Δ1 ++ Δ2, n2, x)
      (match (generalizing := false) d1 with | none => none | some (st1, a) => k st1 a) := by
  cases hc : cAll p Δ1 with
  | error e =>
    obtain ⟨rfl, hz⟩ := h1.error e hc
    exact of_error (by rw [cAll_append, hc]) fun he =>
      (hz he).imp fun i hi => ⟨List.mem_append_left Δ2 hi.1, hi.2⟩
  | ok p1 =>
    obtain ⟨rfl, hn1, hl1⟩ := h1.ok p1 hc
    have h := h2 p1 hn1 hl1
    refine ⟨fun err h' => ?_, fun p' h' => ?_⟩ <;> rw [cAll_append, hc] at h'
    · obtain ⟨hd, hz⟩ := h.error err h'
      exact ⟨hd, fun he => (hz he).imp fun i hi => ⟨List.mem_append_right Δ1 hi.1, hi.2⟩⟩
    · obtain ⟨hd, hn, hl⟩ := h.ok p' h'
      exact ⟨hd, hn, by rw [hl, hl1, Nat.add_assoc]⟩

theorem inst {p : Prog} {i : Inst} {n' : Int} {w : Nat} (r : Except Err (Prog × Int))
    (hi : cInst p i = match r with
      | .error e => .error e
      | .ok (p', o) => if o = i.out then .ok p' else .error .outputindex)
    (herr : ∀ e, r = .error e → e ≠ .outputindex)
    (hok : ∀ p' o, r = .ok (p', o) → o = i.out ∧ n' = p'.length + 1 ∧ p'.length = p.length + w) :
    Sim p w ([i], n', i.out)
      (match (generalizing := false) r with | .error _ => none | .ok (p', o) => some (mk p', o)) := by
  cases r with
  | error e => exact of_error (by rw [cAll_single, hi]) fun he => absurd he (herr e rfl)
  | ok r =>
    obtain ⟨p', o⟩ := r
    obtain ⟨rfl, hn, hl⟩ := hok p' o rfl
    exact of_ok (r := ([i], n', i.out)) (by rw [cAll_single, hi]; exact if_pos rfl) hn hl

/-- An `add` or a `dbl` instruction `i`: both run `Program.Add`. -/
theorem addInst {p : Prog} {n' a b : Int} (i : Inst) (hn : i.out = p.length + 1)
    (hn' : n' = p.length + 1 + 1)
    (hi : cInst p i = match pAdd p a b with
      | .error e => .error e
      | .ok (p', o) => if o = i.out then .ok p' else .error .outputindex) :
    Sim p 1 ([i], n', i.out)
      (match pAdd p a b with | .error _ => none | .ok (p', o) => some (mk p', o)) :=
  inst (n' := n') (pAdd p a b) hi (fun _ h => pAdd_err h) fun p' o h => by
    obtain ⟨ho, hl⟩ := pAdd_out h
    exact ⟨ho.trans hn.symm, by rw [hn', hl, Int.natCast_add]; rfl, hl⟩

theorem add {p : Prog} {n n' a b : Int} (hn : n = p.length + 1)
    (hn' : n' = p.length + 1 + 1) :
    Sim p 1 ([⟨n, if a > b then .add b a else .add a b⟩], n', n) (step (mk p) a b) := by
  rw [step_sim]
  split
  · exact addInst ⟨n, .add b a⟩ hn hn' rfl
  · exact addInst ⟨n, .add a b⟩ hn hn' rfl

theorem dbl {p : Prog} {n n' a : Int} (hn : n = p.length + 1)
    (hn' : n' = p.length + 1 + 1) :
    Sim p 1 ([⟨n, .dbl a⟩], n', n) (step (mk p) a a) := by
  rw [step_sim_dbl]
  exact addInst ⟨n, .dbl a⟩ hn hn' rfl

/-- `Program.Shift(a, 0)` returns `a` unchecked, so the cross-check compares `a` itself with the
    index of the most recent element; a shift by `s ≥ 1` passes it. -/
theorem shl {p : Prog} {n' o a : Int} {s : Nat} (hn' : n' = p.length + s + 1)
    (ho : o = p.length + s) :
    Sim p s ([⟨o, .shl a s⟩], n', o)
      (if s = 0 then (if a = ((mk p).chain.length : Int) - 1 then some (mk p, a) else none)
       else doubles s (mk p) a) := by
  by_cases hs : s = 0
  · subst hs
    have hi : cInst p ⟨o, .shl a 0⟩ = if a = o then .ok p else .error .outputindex := rfl
    rw [Int.natCast_zero, Int.add_zero] at ho hn'
    rw [if_pos rfl, mk_length, Int.add_sub_cancel, ← ho]
    by_cases ha : a = o
    · subst ha
      rw [if_pos rfl]
      exact of_ok (r := (_, _, _)) (by rw [cAll_single, hi, if_pos rfl]) hn' rfl
    · rw [if_neg ha]
      exact of_error (by rw [cAll_single, hi, if_neg ha]) fun _ => ⟨_, List.mem_singleton.2 rfl, a, rfl⟩
  · rw [if_neg hs, doubles_sim]
    exact inst (i := ⟨o, .shl a s⟩) (n' := n') (pShift s p a) rfl (fun _ => pShift_err)
      fun p' o' h => by
        obtain ⟨hl, ho'⟩ := pShift_out h
        exact ⟨by rw [ho' hs, hl, ho, Int.natCast_add], by rw [hn', hl, Int.natCast_add], hl⟩

end Sim

theorem tExpr_sim (env : Env) (n : Int) (e : Expr) :
    match tExpr env n e with
    | .error err => err = .undefined ∧ ∀ st, dExpr st env e = none
    | .ok r => ∀ p : Prog, n = p.length + 1 → Fits p.length (weight e) →
        Sim p (weight e) r (dExpr (mk p) env e) := by
  fun_induction tExpr env n e with
  | case1 n i => exact fun p hn _ => Sim.nil hn
  | case2 n s hl => exact ⟨rfl, fun st => by rw [dExpr, hl]; rfl⟩
  | case3 n s i hl => intro p hn _; rw [dExpr, hl]; exact Sim.nil hn
  | case4 n x y e hx ihx =>
    rw [hx] at ihx
    exact ⟨ihx.1, fun st => by rw [dExpr, ihx.2 st]⟩
  | case5 n x y d1 n1 a hx e hy ihx ihy =>
    rw [hy] at ihy
    refine ⟨ihy.1, fun st => ?_⟩
    rw [dExpr]
    cases dExpr st env x with
    | none => rfl
    | some r => simp only [ihy.2]
  | case6 n x y d1 n1 a hx d2 n2 b hy ihx ihy =>
    rw [hx] at ihx
    rw [hy] at ihy
    intro p hn hb
    rw [weight, Nat.add_assoc] at hb ⊢
    rw [dExpr, List.append_assoc]
    refine (ihx p hn hb.left).append fun p1 hn1 hl1 => ?_
    have hb1 := hb.right hl1
    refine (ihy p1 hn1 hb1.left).append fun p2 hn2 hl2 => ?_
    exact Sim.add hn2 ((hb1.right hl2).wrap_succ hn2)
  | case7 n x e hx ihx =>
    rw [hx] at ihx
    exact ⟨ihx.1, fun st => by rw [dExpr, ihx.2 st]⟩
  | case8 n x d1 n1 a hx ihx =>
    rw [hx] at ihx
    intro p hn hb
    rw [weight] at hb ⊢
    rw [dExpr]
    refine (ihx p hn hb.left).append fun p1 hn1 hl1 => ?_
    exact Sim.dbl hn1 ((hb.right hl1).wrap_succ hn1)
  | case9 n x s e hx ihx =>
    rw [hx] at ihx
    exact ⟨ihx.1, fun st => by rw [dExpr, ihx.2 st]⟩
  | case10 n x s d1 n1 a hx n2 ihx =>
    rw [hx] at ihx
    intro p hn hb
    rw [weight] at hb ⊢
    rw [dExpr]
    refine (ihx p hn hb.left).append fun p1 hn1 hl1 => ?_
    obtain ⟨h2, h3⟩ := (hb.right hl1).wrap_shift hn1
    exact Sim.shl h2 h3

theorem tExpr_error {env : Env} {n : Int} {e : Expr} {err : Err} (h : tExpr env n e = .error err) :
    err = .undefined ∧ ∀ st, dExpr st env e = none := by
  have := tExpr_sim env n e
  rwa [h] at this

theorem tExpr_ok {env : Env} {n : Int} {e : Expr} {r : List Inst × Int × Int} {p : Prog}
    (h : tExpr env n e = .ok r) (hn : n = p.length + 1) (hb : Fits p.length (weight e)) :
    Sim p (weight e) r (dExpr (mk p) env e) := by
  have := tExpr_sim env n e
  rw [h] at this
  exact this p hn hb

theorem expr_sim (env : Env) : ∀ (e : Expr) (n : Int) (p : Prog), n = p.length + 1 →
    n + weight e < B63 →
    (∀ err, tExpr env n e = .error err → dExpr (mk p) env e = none) ∧
    (∀ Δ n' x, tExpr env n e = .ok (Δ, n', x) →
      (∀ err, cAll p Δ = .error err → dExpr (mk p) env e = none) ∧
      (∀ p', cAll p Δ = .ok p' → dExpr (mk p) env e = some (mk p', x) ∧ n' = p'.length + 1)) := by
  intro e n p hn hb
  refine ⟨fun err ht => (tExpr_error ht).2 (mk p), fun Δ n' x ht => ?_⟩
  have hs := tExpr_ok ht hn (Fits.of_counter hn hb)
  exact ⟨fun err hc => (hs.error err hc).1, fun p' hc => ⟨(hs.ok p' hc).1, (hs.ok p' hc).2.1⟩⟩

/-- erase the error class -/
def erase : Except Err Prog → Option St
  | .error _ => none
  | .ok p => some (mk p)

theorem tStmts_err {env : Env} {n : Int} {ss : List Stmt} {err : Err}
    (h : tStmts env n ss = .error err) : err ≠ .outputindex := by
  fun_induction tStmts env n ss with
  | case1 => cases h
  | case2 env n st r e ht => cases h; rw [(tExpr_error ht).1]; decide
  | case3 => cases h; decide
  | case4 env n st r Δ n' x ht hl e hr ih => cases h; exact ih hr
  | case5 => cases h

theorem tStmts_sim (env : Env) (n : Int) (ss : List Stmt) (p : Prog) (hn : n = p.length + 1)
    (hb : Fits p.length (weightS ss)) :
    (∀ err, tStmts env n ss = .error err → dStmts (mk p) env ss = none) ∧
    (∀ ir, tStmts env n ss = .ok ir → erase (cAll p ir) = dStmts (mk p) env ss ∧
      (cAll p ir = .error .outputindex → ∃ i ∈ ir, ∃ a, i.op = .shl a 0)) := by
  fun_induction tStmts env n ss generalizing p with
  | case1 =>
    exact ⟨fun _ h => (nomatch h), fun ir h => by cases h; exact ⟨rfl, fun h => (nomatch h)⟩⟩
  | case2 env n st r e ht =>
    exact ⟨fun _ _ => by rw [dStmts, (tExpr_error ht).2], fun _ h => (nomatch h)⟩
  | case3 env n st r Δ n' x ht v hl =>
    refine ⟨fun _ _ => ?_, fun _ h => (nomatch h)⟩
    rw [dStmts]
    cases dExpr (mk p) env st.e with
    | none => rfl
    | some r => simp only [hl]
  | case4 env n st r Δ n' x ht hl e hr ih =>
    rw [weightS] at hb
    have hs := tExpr_ok ht hn hb.left
    refine ⟨fun _ _ => ?_, fun _ h => (nomatch h)⟩
    rw [dStmts]
    cases hc : cAll p Δ with
    | error e' => rw [(hs.error e' hc).1]
    | ok p1 =>
      obtain ⟨hd, hn1, hl1⟩ := hs.ok p1 hc
      rw [hd]
      simp only [hl]
      exact (ih p1 hn1 (hb.right hl1)).1 e hr
  | case5 env n st r Δ n' x ht hl ir hr ih =>
    rw [weightS] at hb
    have hs := tExpr_ok ht hn hb.left
    refine ⟨fun _ h => (nomatch h), fun _ h => ?_⟩
    cases h
    rw [dStmts, cAll_append]
    cases hc : cAll p Δ with
    | error e' =>
      obtain ⟨hd, hz⟩ := hs.error e' hc
      rw [hd]
      exact ⟨rfl, fun h => by
        cases h
        exact (hz rfl).imp fun i hi => ⟨List.mem_append_left ir hi.1, hi.2⟩⟩
    | ok p1 =>
      obtain ⟨hd, hn1, hl1⟩ := hs.ok p1 hc
      rw [hd]
      simp only [hl]
      obtain ⟨h1, h2⟩ := (ih p1 hn1 (hb.right hl1)).2 ir hr
      exact ⟨h1, fun h => (h2 h).imp fun i hi => ⟨List.mem_append_right Δ hi.1, hi.2⟩⟩

theorem stmts_sim : ∀ (ss : List Stmt) (env : Env) (n : Int) (p : Prog), n = p.length + 1 →
    n + weightS ss < B63 →
    (match tStmts env n ss with | .error _ => none | .ok ir => erase (cAll p ir))
      = dStmts (mk p) env ss := by
  intro ss env n p hn hb
  obtain ⟨h1, h2⟩ := tStmts_sim env n ss p hn (Fits.of_counter hn hb)
  cases h : tStmts env n ss with
  | error e => exact (h1 e h).symm
  | ok ir => exact (h2 ir h).1

/-- **C03 refinement**: translating a tree to IR, compiling it (operand bounds checks, output-index
    cross-check) and evaluating the program yields exactly the chain and op list of the direct
    semantics, and is an error exactly when the direct semantics rejects. The hypothesis says the
    tree describes fewer than 2^63 chain elements (a Go slice cannot be longer). -/
theorem load_eq_denote (t : Tree) (h : (weightS t : Int) + 1 < B63) :
    (load t).toOption = denote t := by
  obtain ⟨h1, h2⟩ := tStmts_sim [] 1 t [] rfl (Fits.nil h)
  unfold load translate compile
  cases ht : tStmts [] 1 t with
  | error e => exact (h1 e ht).symm
  | ok ir =>
    refine Eq.trans ?_ (h2 ir ht).1
    dsimp only
    cases cAll [] ir <;> rfl

end P.SemX
