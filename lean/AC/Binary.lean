import AC.ChainFacts
import AC.Sliding
/-! C01 prototype: `binary.RightToLeft`. -/
namespace P
open P.Bits

def rtlGo (n : Nat) : Nat → Nat → List Int → Option Nat → List Int
  | 0, _, c, _ => c
  | k+1, i, c, x =>
    let c1 := c ++ [((2 ^ i : Nat) : Int)]
    if n.testBit i then
      match x with
      | none => rtlGo n k (i + 1) c1 (some (2 ^ i))
      | some xv => rtlGo n k (i + 1) (c1 ++ [((xv + 2 ^ i : Nat) : Int)]) (some (xv + 2 ^ i))
    else rtlGo n k (i + 1) c1 x

def rtl (n : Nat) : List Int := rtlGo n (Nat.log2 n + 1) 0 [] none

/-! one iteration, by the bit at position `i` and the pointer `x` -/
theorem rtlGo_clear (n k i : Nat) (c : List Int) (x : Option Nat) (hb : n.testBit i = false) :
    rtlGo n (k + 1) i c x = rtlGo n k (i + 1) (c ++ [((2 ^ i : Nat) : Int)]) x := by
  simp only [rtlGo, hb, Bool.false_eq_true, if_false]

theorem rtlGo_first (n k i : Nat) (c : List Int) (hb : n.testBit i = true) :
    rtlGo n (k + 1) i c none = rtlGo n k (i + 1) (c ++ [((2 ^ i : Nat) : Int)]) (some (2 ^ i)) := by
  simp only [rtlGo, hb, if_true]

theorem rtlGo_set (n k i : Nat) (c : List Int) (xv : Nat) (hb : n.testBit i = true) :
    rtlGo n (k + 1) i c (some xv) =
      rtlGo n k (i + 1) (c ++ [((2 ^ i : Nat) : Int)] ++ [((xv + 2 ^ i : Nat) : Int)]) (some (xv + 2 ^ i)) := by
  simp only [rtlGo, hb, if_true]

/-- the pointer `x` of the loop when the bits seen so far have value `m`: nil until the first set bit -/
def xOf (m : Nat) : Option Nat := if m = 0 then none else some m

/-- loop invariant after the bits `0..j`: the chain holds the powers of two up to `2^j` and, from
    the first set bit on, the value of the bits seen; everything lies below `2^(j+1)` -/
structure RInvB (n j : Nat) (c : List Int) : Prop where
  chain : IsChain c
  below : ∀ y ∈ c, y < ((2 ^ (j + 1) : Nat) : Int)
  pow : ((2 ^ j : Nat) : Int) ∈ c
  low : n % 2 ^ (j + 1) ≠ 0 → ((n % 2 ^ (j + 1) : Nat) : Int) ∈ c
  last : n.testBit j = true → c.getLast? = some ((n % 2 ^ (j + 1) : Nat) : Int)

/-- appending the next power of two `d = e + e` -/
theorem rtl_append_pow (c : List Int) (d e : Nat) (hc : IsChain c) (hd : d = e + e) (he : (e : Int) ∈ c)
    (hbelow : ∀ y ∈ c, y < (d : Int)) :
    IsChain (c ++ [(d : Int)]) ∧ ∀ y ∈ c ++ [(d : Int)], y < ((d + d : Nat) : Int) := by
  subst hd
  have he1 : 1 ≤ e := Int.ofNat_le.1 (isChain_mem_pos c hc _ he)
  have hlt : e + e < e + e + (e + e) := Nat.lt_add_of_pos_right (Nat.add_pos_left he1 e)
  refine ⟨?_, fun y hy => ?_⟩
  · rw [Int.natCast_add]
    exact isChain_snoc_above c _ _ hc he he fun y hy => Int.natCast_add e e ▸ hbelow y hy
  · rcases List.mem_append.1 hy with h | h
    · exact Int.lt_trans (hbelow y h) (Int.ofNat_lt.2 hlt)
    · exact List.mem_singleton.1 h ▸ Int.ofNat_lt.2 hlt

/-- appending `m + d` for members `m < d` and `d`, the largest -/
theorem rtl_append_sum (c : List Int) (d m : Nat) (hc : IsChain c) (hm : (m : Int) ∈ c) (hd : (d : Int) ∈ c)
    (hmd : m < d) (hle : ∀ y ∈ c, y ≤ (d : Int)) :
    IsChain (c ++ [((m + d : Nat) : Int)]) ∧ ∀ y ∈ c ++ [((m + d : Nat) : Int)], y < ((d + d : Nat) : Int) := by
  have hm1 : 0 < m := Int.ofNat_le.1 (isChain_mem_pos c hc _ hm)
  have hdd : (d : Int) < ((d + d : Nat) : Int) := Int.ofNat_lt.2 (Nat.lt_add_of_pos_right (Nat.lt_trans hm1 hmd))
  refine ⟨?_, fun y hy => ?_⟩
  · rw [Int.natCast_add]
    exact isChain_snoc_above c _ _ hc hm hd fun y hy =>
      Int.lt_of_le_of_lt (hle y hy) (Int.natCast_add m d ▸ Int.ofNat_lt.2 (Nat.lt_add_of_pos_left hm1))
  · rcases List.mem_append.1 hy with h | h
    · exact Int.lt_of_le_of_lt (hle y h) hdd
    · exact List.mem_singleton.1 h ▸ Int.ofNat_lt.2 (Nat.add_lt_add_right hmd d)

theorem rtl_step (n j : Nat) (c : List Int) (h : RInvB n j c) :
    ∃ c', (∀ k, rtlGo n (k + 1) (j + 1) c (xOf (n % 2 ^ (j + 1))) =
        rtlGo n k (j + 2) c' (xOf (n % 2 ^ (j + 2)))) ∧ RInvB n (j + 1) c' := by
  have hmod := mod_succ_of_bit n (j + 1)
  have hsucc : 2 ^ (j + 2) = 2 ^ (j + 1) + 2 ^ (j + 1) := by rw [Nat.pow_succ, Nat.mul_two]
  have hpos : 0 < 2 ^ (j + 1) := Nat.pow_pos (by decide)
  have hlt : n % 2 ^ (j + 1) < 2 ^ (j + 1) := Nat.mod_lt _ hpos
  obtain ⟨hc1, hb1⟩ := rtl_append_pow c (2 ^ (j + 1)) (2 ^ j) h.chain (by rw [Nat.pow_succ, Nat.mul_two]) h.pow h.below
  have hd1 : ((2 ^ (j + 1) : Nat) : Int) ∈ c ++ [((2 ^ (j + 1) : Nat) : Int)] :=
    List.mem_append_right _ (List.mem_singleton_self _)
  rw [← hsucc] at hb1
  cases hb : n.testBit (j + 1) with
  | false =>
    have hm : n % 2 ^ (j + 2) = n % 2 ^ (j + 1) := by rw [hmod, hb]; simp
    refine ⟨_, fun k => by rw [rtlGo_clear n k _ c _ hb, hm], hc1, hb1, hd1, fun h0 => ?_,
      fun e => by rw [hb] at e; cases e⟩
    rw [hm] at h0 ⊢
    exact List.mem_append_left _ (h.low h0)
  | true =>
    have hm : n % 2 ^ (j + 2) = n % 2 ^ (j + 1) + 2 ^ (j + 1) := by rw [hmod, hb]; simp
    have hx' : xOf (n % 2 ^ (j + 2)) = some (n % 2 ^ (j + 1) + 2 ^ (j + 1)) := by
      rw [hm, xOf, if_neg (Nat.ne_of_gt (Nat.add_pos_right _ hpos))]
    by_cases h0 : n % 2 ^ (j + 1) = 0
    · -- first set bit
      have hm0 : n % 2 ^ (j + 2) = 2 ^ (j + 1) := by rw [hm, h0, Nat.zero_add]
      refine ⟨_, fun k => by rw [hx', h0, xOf, if_pos rfl, rtlGo_first n k _ c hb, Nat.zero_add], hc1, hb1, hd1,
        fun _ => hm0 ▸ hd1, fun _ => by rw [hm0]; exact List.getLast?_concat⟩
    · obtain ⟨hc2, hb2⟩ := rtl_append_sum _ (2 ^ (j + 1)) (n % 2 ^ (j + 1)) hc1
        (List.mem_append_left _ (h.low h0)) hd1 hlt fun y hy => by
          rcases List.mem_append.1 hy with hy | hy
          · exact Int.le_of_lt (h.below y hy)
          · rw [List.mem_singleton.1 hy]; exact Int.le_refl _
      rw [← hsucc] at hb2
      refine ⟨_, fun k => by rw [hx', xOf, if_neg h0, rtlGo_set n k _ c _ hb], hc2, hb2,
        List.mem_append_left _ hd1,
        fun _ => by rw [hm]; exact List.mem_append_right _ (List.mem_singleton_self _), fun _ => by rw [hm]; exact List.getLast?_concat⟩

theorem rtl_iter (n : Nat) : ∀ (k j : Nat) (c : List Int), RInvB n j c →
    RInvB n (j + k) (rtlGo n k (j + 1) c (xOf (n % 2 ^ (j + 1)))) := by
  intro k
  induction k with
  | zero => intro j c h; exact h
  | succ k ih =>
    intro j c h
    obtain ⟨c', hstep, hinv⟩ := rtl_step n j c h
    rw [hstep k, show j + (k + 1) = j + 1 + k from Nat.add_right_comm j k 1]
    exact ih (j + 1) c' hinv

/-- the first iteration: the chain is still empty -/
theorem rtlGo_zero (n k : Nat) : rtlGo n (k + 1) 0 [] none = rtlGo n k 1 [1] (xOf (n % 2 ^ 1)) := by
  cases hb : n.testBit 0 with
  | false =>
    have : n % 2 = 0 := by
      rcases Nat.mod_two_eq_zero_or_one n with h | h
      · exact h
      · rw [Nat.mod_two_eq_one_iff_testBit_zero.1 h] at hb; cases hb
    rw [rtlGo_clear n k 0 [] none hb, Nat.pow_one, this]; rfl
  | true =>
    have : n % 2 = 1 := Nat.mod_two_eq_one_iff_testBit_zero.2 hb
    rw [rtlGo_first n k 0 [] hb, Nat.pow_one, this]; rfl

/-- **the right-to-left binary method returns an addition chain ending at n** -/
theorem binary_ok (n : Nat) (hn : 1 ≤ n) : IsChain (rtl n) ∧ (rtl n).getLast? = some (n : Int) := by
  have h1 : RInvB n 0 [1] := by
    refine ⟨isChain_one, by simp, by simp, fun h0 => ?_, fun hb => ?_⟩
    · have : n % 2 ^ (0 + 1) = 1 := (Nat.mod_two_eq_zero_or_one n).resolve_left h0
      rw [this]; simp
    · have : n % 2 ^ (0 + 1) = 1 := Nat.mod_two_eq_one_iff_testBit_zero.2 hb
      rw [this]; rfl
  have hI := rtl_iter n (Nat.log2 n) 0 [1] h1
  rw [Nat.zero_add] at hI
  unfold rtl
  rw [rtlGo_zero]
  refine ⟨hI.chain, ?_⟩
  rw [hI.last (Nat.testBit_log2 (Nat.ne_of_gt hn)), Nat.mod_eq_of_lt Nat.lt_log2_self]

end P
