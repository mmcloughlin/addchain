import AC.TextCompose
import AC.Props.C01
import AC.Props.C14
/-! # C14 — the search command over the CONCRETE parts

`P.SearchX.search` is the model of `search.Execute` over abstract `Parts`.  Here the parts are the
models of the other properties:

* `algs`  — `exec.Execute` (`P.DA.executeWith`, C01) on every configuration of a list `cfgs`
  (instantiated with the regenerated `AC.Gen.ensembleConfigs`), for an arbitrary sequence-algorithm
  runner (fuel) and an arbitrary family of sort oracles;
* `emit`  — `printer.String ∘ acc.Build ∘ acc.Decompile` (`decompileX`, `buildX`, `printScript`; C04, C07);
* `load`  — `acc.LoadString` (`P.SemX.loadText` = parse, translate, compile, evaluate; C03).

Proved: the report of a successful search is self-consistent and minimal (`search_concrete`), and the
search is total for every expression denoting `n ≥ 1` in the input-size range (`search_total`). -/
namespace P.SearchCompose
open P P.DA P.SearchX P.BuildX P.TextCompose

/-- `exec.Execute(n, a).Program`, `none` on error -/
def algOf (sf : SeqRun) (orc : ChainAlg → Nat → List TermP) (a : ChainAlg) : Int → Option (List Op) :=
  fun n => match executeWith sf a n.toNat (orc a n.toNat) with
    | .ok x => some x.2
    | .error _ => none

/-- `printer.String(acc.Build(acc.Decompile(p)))`, `none` on error -/
def emitC (p : List Op) : Option (List Char) :=
  match decompileX p with
  | .error _ => none
  | .ok ir => match buildX ir with
    | .error _ => none
    | .ok s => some (printScript s)

/-- `acc.LoadString(txt)`: chain and program, `none` on error -/
def loadC (t : List Char) : Option (Chain × List Op) :=
  match P.SemX.loadText t with
  | .ok st => some (st.chain.map (fun k : Nat => (k : Int)), st.ops)
  | .error _ => none

def parts (sf : SeqRun) (orc : ChainAlg → Nat → List TermP) (cfgs : List ChainAlg) : Parts where
  algs := cfgs.map (algOf sf orc)
  emit := emitC
  load := loadC

theorem inRange_of_program (c : Chain) (p : List Op) (h : program c = .ok p) : P.Sem.InRange p 0 := by
  obtain ⟨hlen, hget⟩ := program_spec c p h
  refine (P.Sem.inRange_iff p 0).2 fun j o hj => ?_
  obtain ⟨hjl, rfl⟩ := List.getElem?_eq_some_iff.1 hj
  have := (mem_ops c (j + 1) p[j].1 p[j].2 (by omega)).1 (hget j hjl)
  omega

theorem executeWith_facts (sf : SeqRun) (a : ChainAlg) (n : Nat) (o : List TermP) (c : Chain) (p : List Op)
    (h : executeWith sf a n o = .ok (c, p)) :
    P.Sem.InRange p 0 ∧ evaluate p = c ∧ IsChain c ∧ c.getLast? = some (n : Int) := by
  unfold executeWith at h
  split at h
  · cases h
  · rename_i c' hc
    split at h
    · cases h
    · rename_i p' hp
      split at h
      · rename_i hl
        cases h
        exact ⟨inRange_of_program c p hp, program_evaluate c p hp, (validate_iff c).1 ⟨p, hp⟩, by simpa using hl⟩
      · cases h

theorem algs_result {sf : SeqRun} {orc : ChainAlg → Nat → List TermP} {cfgs : List ChainAlg} {n : Int}
    {rs : List (List Op)} (hrs : (parts sf orc cfgs).algs.mapM (fun a => a n) = some rs)
    {p : List Op} (hp : p ∈ rs) :
    P.Sem.InRange p 0 ∧ IsChain (evaluate p) ∧ (evaluate p).getLast? = some (n.toNat : Int) := by
  obtain ⟨g, hg, hgp⟩ := mapM_mem _ _ _ hrs p hp
  obtain ⟨a, _, rfl⟩ := List.mem_map.mp hg
  unfold algOf at hgp
  split at hgp
  · rename_i x hx
    cases hgp
    obtain ⟨f1, f2, f3, f4⟩ := executeWith_facts sf a _ _ x.1 x.2 hx
    exact ⟨f1, f2 ▸ f3, f2 ▸ f4⟩
  · cases hgp

theorem count_map_norm (p : List Op) : PX.count (p.map P.Sem.norm) = PX.count p := by
  unfold PX.count
  rw [List.foldl_map]
  congr
  funext acc o
  rw [show ((P.Sem.norm o).1 == (P.Sem.norm o).2) = (o.1 == o.2) from P.Sem.isDouble_norm o]

theorem emit_load (p : List Op) (hr : P.Sem.InRange p 0) (hc : IsChain (evaluate p))
    (hsz : p.length + 1 < 2 ^ 63) :
    ∃ txt, emitC p = some txt ∧ loadC txt = some (evaluate p, p.map P.Sem.norm) := by
  obtain ⟨ir, s, h1, h2, _, _, h5, h6⟩ := C04_text p hr hc.2.2.2.1 hsz
  refine ⟨printScript s, ?_, ?_⟩
  · unfold emitC; rw [h1]; dsimp only; rw [h2]
  · unfold loadC; rw [h5]; dsimp only; rw [h6]

/-- `emit` alone needs no size bound -/
theorem emit_total (p : List Op) (hr : P.Sem.InRange p 0) (hc : IsChain (evaluate p)) :
    ∃ txt, emitC p = some txt := by
  obtain ⟨ir, s, h1, h2, _, _⟩ := AC.Props.C04.C04_roundtrip_core p hr hc.2.2.2.1
  exact ⟨printScript s, by unfold emitC; rw [h1]; dsimp only; rw [h2]⟩

/-- **C14 over the concrete parts**: for every list of configurations, every runner and every oracle
    family, if `search` prints `(txt, cost)` for the expression `e` with add/double weights `A`/`D`, then
    `e` denotes some `n ≥ 1`; every algorithm returned a program; no algorithm result is cheaper than
    `cost`; and — provided the selected program has fewer than `2^63 - 1` operations (no Go slice holds
    more) — loading `txt` (`acc.LoadString`) succeeds with a valid addition chain ending in `n` whose
    program has weighted operation count exactly `cost`. -/
theorem search_concrete (sf : SeqRun) (orc : ChainAlg → Nat → List TermP) (cfgs : List ChainAlg)
    (A D : Int) (e txt : List Char) (cost : Int)
    (h : search (parts sf orc cfgs) A D e = .ok (txt, cost)) :
    ∃ n, AC.Calc.eval e = .ok n ∧ 1 ≤ n ∧
    ∃ rs, (parts sf orc cfgs).algs.mapM (fun a => a n) = some rs ∧ (∀ r ∈ rs, cost ≤ costOf A D r) ∧
    ∃ best, best ∈ rs ∧ cost = costOf A D best ∧ emitC best = some txt ∧
      (best.length + 1 < 2 ^ 63 →
        ∃ c q, loadC txt = some (c, q) ∧ IsChain c ∧ c.getLast? = some n ∧ cost = costOf A D q) := by
  obtain ⟨n, rs, he, hn, hrs, best, hb, hem, hc, hmin⟩ := search_ok h
  refine ⟨n, he, hn, rs, hrs, hmin, best, hb, hc, hem, fun hsz => ?_⟩
  obtain ⟨f1, f3, f4⟩ := algs_result hrs hb
  rw [show ((n.toNat : Nat) : Int) = n by omega] at f4
  obtain ⟨t', ht', hl'⟩ := emit_load _ f1 f3 hsz
  cases ht'.symm.trans hem
  exact ⟨_, _, hl', f3, f4, by rw [hc, costOf, costOf, count_map_norm]⟩

/-- one fuel bound for a whole list of well-formed configurations -/
theorem uniform_fuel (cfgs : List ChainAlg) (hw : ∀ a ∈ cfgs, a.wf = true) (n : Nat) (hn : 1 ≤ n)
    (hsz : Nat.log2 n + 1 < 2 ^ 64) :
    ∃ F, ∀ f, F ≤ f → ∀ a ∈ cfgs, ∀ o,
      (∃ c p, executeWith (SeqAlg.findF f) a n o = .ok (c, p)) ∨
      executeWith (SeqAlg.findF f) a n o = .error .oracle := by
  induction cfgs with
  | nil => exact ⟨0, fun _ _ a ha => by cases ha⟩
  | cons a l ih =>
    obtain ⟨F1, h1⟩ := executeWith_total a (hw a List.mem_cons_self) n hn hsz
    obtain ⟨F2, h2⟩ := ih (fun a' ha' => hw a' (List.mem_cons_of_mem _ ha'))
    refine ⟨F1 + F2, fun f hf a' ha' o => ?_⟩
    rcases List.mem_cons.mp ha' with rfl | hm
    · rcases h1 f (Nat.le_trans (Nat.le_add_right _ _) hf) o with ⟨c, p, hh, _⟩ | hh
      · exact Or.inl ⟨c, p, hh⟩
      · exact Or.inr hh
    · exact h2 f (Nat.le_trans (Nat.le_add_left _ _) hf) a' hm o

/-- **the search never fails on a target in range**: for every non-empty list of well-formed
    configurations, every expression that evaluates to `n ≥ 1` whose bit length fits a machine word, all
    sufficiently large fuel and every oracle family: either `search` prints a script and a cost, or one
    of the oracles was not an admissible result of the unstable sort (the driver checks the real order
    admissible on every run).  In particular no algorithm error, no `rs[best]` index panic and no
    `Decompile`/`Build` error is reachable. -/
theorem search_total (cfgs : List ChainAlg) (hne : cfgs ≠ []) (hw : ∀ a ∈ cfgs, a.wf = true)
    (A D : Int) (e : List Char) (n : Int) (he : AC.Calc.eval e = .ok n) (hn : 1 ≤ n)
    (hsz : Nat.log2 n.toNat + 1 < 2 ^ 64) :
    ∃ F, ∀ f, F ≤ f → ∀ orc,
      (∃ txt cost, search (parts (SeqAlg.findF f) orc cfgs) A D e = .ok (txt, cost)) ∨
      (∃ a ∈ cfgs, executeWith (SeqAlg.findF f) a n.toNat (orc a n.toNat) = .error .oracle) := by
  obtain ⟨F, hF⟩ := uniform_fuel cfgs hw n.toNat (by omega) hsz
  refine ⟨F, fun f hf orc => ?_⟩
  by_cases hor : ∃ a ∈ cfgs, executeWith (SeqAlg.findF f) a n.toNat (orc a n.toNat) = .error .oracle
  · exact Or.inr hor
  · left
    have hsome : ∀ g ∈ (parts (SeqAlg.findF f) orc cfgs).algs, ∃ b, g n = some b := by
      intro g hg
      obtain ⟨a, ha, rfl⟩ := List.mem_map.mp hg
      obtain ⟨c, p, hcp⟩ := (hF f hf a ha (orc a n.toNat)).resolve_right fun h => hor ⟨a, ha, h⟩
      exact ⟨p, by unfold algOf; rw [hcp]⟩
    obtain ⟨rs, hrs⟩ := mapM_some_of_forall (fun (g : Int → Option (List Op)) => g n) _ hsome
    have hrne : rs ≠ [] := by
      obtain ⟨a, l, rfl⟩ := List.exists_cons_of_ne_nil hne
      obtain ⟨b, bs, _, _, rfl⟩ := (mapM_cons_some _ _ _ _).1 hrs
      exact List.cons_ne_nil _ _
    obtain ⟨best, hb, _, heq⟩ := search_eq (A := A) (D := D) he hn hrs hrne
    obtain ⟨f1, f3, _⟩ := algs_result hrs hb
    obtain ⟨t, ht⟩ := emit_total _ f1 f3
    exact ⟨t, _, by rw [heq]; show (match emitC best with | some txt => _ | none => _) = _; rw [ht]⟩

end P.SearchCompose

namespace AC.Props.C14
open P P.DA P.SearchX P.SearchCompose

/-- **C14, self-consistency and minimality, for the concrete models and the regenerated ensemble**
    (`AC.Gen.ensembleConfigs` is rewritten from `ensemble.Ensemble()` of the working tree on every run):
    whatever `search` prints loads to a valid chain ending in the value of the expression, the reported
    cost is the weighted operation count of the loaded program, and no algorithm result is cheaper. -/
theorem C14_search_concrete (sf : SeqRun) (orc : ChainAlg → Nat → List TermP)
    (A D : Int) (e txt : List Char) (cost : Int)
    (h : search (parts sf orc AC.Gen.ensembleConfigs) A D e = .ok (txt, cost)) :
    ∃ n, AC.Calc.eval e = .ok n ∧ 1 ≤ n ∧
    ∃ rs, (parts sf orc AC.Gen.ensembleConfigs).algs.mapM (fun a => a n) = some rs ∧
      (∀ r ∈ rs, cost ≤ costOf A D r) ∧
    ∃ best, best ∈ rs ∧ cost = costOf A D best ∧ emitC best = some txt ∧
      (best.length + 1 < 2 ^ 63 →
        ∃ c q, loadC txt = some (c, q) ∧ IsChain c ∧ c.getLast? = some n ∧ cost = costOf A D q) :=
  search_concrete sf orc _ A D e txt cost h

/-- **C14/C15, totality of the search over the regenerated ensemble**: every expression denoting
    `n ≥ 1` in the input-size range yields a script and a cost (for all large fuel, every admissible
    oracle family) -/
theorem C14_search_ensemble_total (A D : Int) (e : List Char) (n : Int) (he : AC.Calc.eval e = .ok n)
    (hn : 1 ≤ n) (hsz : Nat.log2 n.toNat + 1 < 2 ^ 64) :
    ∃ F, ∀ f, F ≤ f → ∀ orc,
      (∃ txt cost, search (parts (SeqAlg.findF f) orc AC.Gen.ensembleConfigs) A D e = .ok (txt, cost)) ∨
      (∃ a ∈ AC.Gen.ensembleConfigs,
        executeWith (SeqAlg.findF f) a n.toNat (orc a n.toNat) = .error .oracle) :=
  search_total _ (by unfold AC.Gen.ensembleConfigs; exact List.cons_ne_nil _ _)
    AC.Props.C01.C01_ensemble_wf A D e n he hn hsz

end AC.Props.C14
