import AC.ProgramX
import AC.Gen.ProgramFns
import AC.GoAlg
/-! # The translated program.go equals the hand-written model (C18 translator tie)

`AC/Gen/ProgramFns.lean` is regenerated from program.go on every run; the theorems below prove each
translated function equal to the model function of `AC/ProgramX.lean` on which the C18 theorems are
stated (programs with natural-number operands: a Go `Program` literal with a negative operand is
outside the model; the builders take arbitrary `int` operands). -/
namespace AC.ProgramTie
open AC.Gen.Program AC.GoPrim AC.BigPrim P P.Prim P.PX

def toG (o : Op) : GOp := ⟨(o.1 : Int), (o.2 : Int)⟩
def toGs (p : List Op) : List GOp := p.map toG
def ints (l : List Nat) : List Int := l.map Int.ofNat

def errG : Err → GoErr
  | .negative i => ("negative index %d", [i])
  | .outOfBounds i => ("index %d out of bounds", [i])

@[simp] theorem toGs_length (p : List Op) : (toGs p).length = p.length := by simp [toGs]
@[simp] theorem toGs_nil : toGs [] = [] := rfl
@[simp] theorem toGs_cons (o : Op) (p : List Op) : toGs (o :: p) = toG o :: toGs p := rfl
@[simp] theorem toGs_append (p q : List Op) : toGs (p ++ q) = toGs p ++ toGs q := by simp [toGs]
theorem toGs_snoc (p : List Op) (o : Op) : toGs (p ++ [o]) = toGs p ++ [toG o] := toGs_append p [o]
@[simp] theorem ints_length (l : List Nat) : (ints l).length = l.length := by simp [ints]

@[simp] theorem beq_cast (a b : Nat) : ((a : Int) == (b : Int)) = (a == b) := by
  rw [Bool.eq_iff_iff, beq_iff_eq, beq_iff_eq, Int.natCast_inj]

theorem idx_nat {α} (l : List α) (i : Nat) : idx l (i : Int) = l[i]? := idx_natCast l i

theorem idx_at' (c : Chain) (k : Nat) (h : k < c.length) : idx c (k : Int) = some (at' c k) := by
  rw [idx_nat, at', List.getD_eq_getElem?_getD, List.getElem?_eq_getElem h]; rfl

theorem idx_getD_bind {α β} (l : List α) (d : α) (k : Nat) (f : α → Option β) :
    (idx l (k : Int)).bind f = if k < l.length then f (l.getD k d) else none := by
  rw [idx_nat, List.getD_eq_getElem?_getD]
  by_cases h : k < l.length
  · rw [if_pos h, List.getElem?_eq_getElem h]; rfl
  · rw [if_neg h, List.getElem?_eq_none (Nat.le_of_not_lt h)]; rfl

theorem idx_bind {β} (c : Chain) (k : Nat) (f : Int → Option β) :
    (idx c (k : Int)).bind f = if k < c.length then f (at' c k) else none :=
  idx_getD_bind c 0 k f

theorem idx_ints_bind {β} (r : List Nat) (k : Nat) (f : Int → Option β) :
    (idx (ints r) (k : Int)).bind f = if k < r.length then f (r.getD k 0 : Nat) else none := by
  rw [idx_getD_bind _ (Int.ofNat 0), ints, List.length_map, List.getD_eq_getElem?_getD, List.getElem?_map,
    List.getD_eq_getElem?_getD]
  cases r[k]? <;> rfl

theorem opIsDouble_tie (o : Op) : opIsDouble (toG o) = some (o.1 == o.2) := by
  simp only [opIsDouble, toG, beq_cast, go_simp]

theorem opOperands_tie (o : Op) : opOperands (toG o) = some (ints (operands o)) := by
  simp only [opOperands, operands, opIsDouble_tie, go_simp, apply_ite ints, apply_ite some]
  rfl

theorem opUses_tie (o : Op) (i : Nat) : opUses (toG o) (i : Int) = some (uses i o) := by
  simp only [opUses, uses, toG, beq_cast, go_simp]

theorem boundscheck_tie (p : List Op) (i : Int) :
    programBoundscheck (toGs p) i = some ((boundscheck p i).map errG) := by
  simp only [programBoundscheck, boundscheck, go_simp, len, toGs_length, apply_ite (Option.map errG),
    apply_ite some, Option.map_some, Option.map_none, errG]

/-- what `Program.Add` returns, in the translated functions' shape -/
def addOut (p : List Op) : Except Err (List Op × Nat) → List GOp × Int × Option GoErr
  | .ok (q, n) => (toGs q, (n : Int), none)
  | .error e => (toGs p, 0, some (errG e))

theorem add_tie (p : List Op) (i j : Int) :
    programAdd (toGs p) i j = some (addOut p (padd p i j)) := by
  unfold programAdd padd
  simp only [boundscheck_tie, go_simp]
  cases h1 : boundscheck p i with
  | some e => rfl
  | none =>
    cases h2 : boundscheck p j with
    | some e => rfl
    | none =>
      have hi := (boundscheck_none_iff p i).1 h1
      have hj := (boundscheck_none_iff p j).1 h2
      simp [addOut, toG, len, Int.toNat_of_nonneg hi.1, Int.toNat_of_nonneg hj.1]

theorem double_tie (p : List Op) (i : Int) :
    programDouble (toGs p) i = some (addOut p (pdouble p i)) := by
  simp only [programDouble, pdouble, add_tie, go_simp]

/-- what `Program.Shift` leaves and returns, in the translated functions' shape -/
def shiftOut (r : List Op × Except Err Int) : List GOp × Int × Option GoErr :=
  match r.2 with
  | .ok v => (toGs r.1, v, none)
  | .error e => (toGs r.1, 0, some (errG e))

theorem shift_loop_tie : ∀ (s : Nat) (p : List Op) (i : Int),
    programShift_loop1 s (toGs p) i = some (shiftOut (pshift p i s)) := by
  intro s
  induction s with
  | zero => intro p i; rfl
  | succ s ih =>
    intro p i
    simp only [programShift_loop1, pshift, double_tie, go_simp]
    cases pdouble p i with
    | error e => rfl
    | ok r => exact ih r.1 r.2

theorem shift_tie (p : List Op) (i : Int) (s : Nat) :
    programShift (toGs p) i s = some (shiftOut (pshift p i s)) :=
  shift_loop_tie s p i

/-- the fold of `Program.Count` from an arbitrary state -/
def cnt (q : List Op) (d a : Nat) : Nat × Nat :=
  q.foldl (fun (acc : Nat × Nat) o => if o.1 == o.2 then (acc.1 + 1, acc.2) else (acc.1, acc.2 + 1)) (d, a)

theorem cnt_cons (o : Op) (q : List Op) (d a : Nat) :
    cnt (o :: q) d a = if o.1 == o.2 then cnt q (d + 1) a else cnt q d (a + 1) := by
  unfold cnt
  rw [List.foldl_cons]
  cases o.1 == o.2 <;> rfl

theorem count_loop_tie : ∀ (q : List Op) (p : List GOp) (d a : Nat),
    programCount_loop1 (toGs q) p (d : Int) (a : Int) =
      some (Int.ofNat (cnt q d a).1, Int.ofNat (cnt q d a).2) := by
  intro q
  induction q with
  | nil => intro p d a; rfl
  | cons o q ih =>
    intro p d a
    simp only [toGs_cons, programCount_loop1, opIsDouble_tie, cnt_cons, Option.bind_eq_bind, Option.bind_some]
    cases o.1 == o.2
    · exact ih p d (a + 1)
    · exact ih p (d + 1) a

theorem count_tie (p : List Op) :
    programCount (toGs p) = some (Int.ofNat (PX.count p).1, Int.ofNat (PX.count p).2) :=
  count_loop_tie p (toGs p) 0 0

theorem doubles_tie (p : List Op) : programDoubles (toGs p) = some (Int.ofNat (PX.count p).1) := by
  unfold programDoubles
  rw [count_tie]; rfl

theorem adds_tie (p : List Op) : programAdds (toGs p) = some (Int.ofNat (PX.count p).2) := by
  unfold programAdds
  rw [count_tie]; rfl

theorem evaluate_loop_tie : ∀ (q : List Op) (p : List GOp) (c : Chain),
    programEvaluate_loop1 (toGs q) p c =
      q.foldlM (fun (c : Chain) o =>
        if o.1 < c.length ∧ o.2 < c.length then some (c ++ [at' c o.1 + at' c o.2]) else none) c := by
  intro q
  induction q with
  | nil => intro p c; rfl
  | cons o q ih =>
    intro p c
    simp only [toGs_cons, programEvaluate_loop1, List.foldlM_cons, toG, go_simp, idx_bind, ← ite_and, ih]

theorem evaluate_tie (p : List Op) : programEvaluate (toGs p) = evaluateX p :=
  evaluate_loop_tie p (toGs p) [1]

theorem ints_set (r : List Nat) (x v : Nat) : (ints r).set x (Int.ofNat v) = ints (r.set x v) := by
  simp [ints, List.map_set]

theorem incr_step (r : List Nat) (x : Nat) :
    ((idx (ints r) (x : Int)).bind fun v => setIdx (ints r) (x : Int) (v + 1)) = (incr r x).map ints := by
  rw [idx_ints_bind, setIdx_natCast, ints_length, incr]
  by_cases h : x < r.length
  · simp only [if_pos h, Option.map_some]; exact congrArg some (ints_set r x _)
  · simp only [if_neg h, Option.map_none]

theorem readCounts_loop2_tie : ∀ (xs : List Nat) (p : List GOp) (r : List Nat) (op : GOp),
    programReadCounts_loop2 (ints xs) p (ints r) op = (xs.foldlM incr r).map ints := by
  intro xs
  induction xs with
  | nil => intro p r op; rfl
  | cons x xs ih =>
    intro p r op
    show ((idx (ints r) (x : Int)).bind fun v => (setIdx (ints r) (x : Int) (v + 1)).bind fun r2 =>
      programReadCounts_loop2 (ints xs) p r2 op) = _
    rw [← Option.bind_assoc, incr_step, List.foldlM_cons]
    cases incr r x with
    | none => rfl
    | some r' => exact ih p r' op

theorem readCounts_loop1_tie : ∀ (q : List Op) (p : List GOp) (r : List Nat),
    programReadCounts_loop1 (toGs q) p (ints r) =
      (q.foldlM (fun r o => (operands o).foldlM incr r) r).map ints := by
  intro q
  induction q with
  | nil => intro p r; rfl
  | cons o q ih =>
    intro p r
    simp only [toGs_cons, programReadCounts_loop1, opOperands_tie, List.foldlM_cons, readCounts_loop2_tie,
      Option.bind_eq_bind, Option.bind_some]
    cases (operands o).foldlM incr r with
    | none => rfl
    | some r' => exact ih p r'

theorem readCounts_tie (p : List Op) :
    programReadCounts (toGs p) = (readCounts p).map ints := by
  have hm : makeInts (len (toGs p) + 1) = some (ints (List.replicate (p.length + 1) 0)) := by
    rw [len, toGs_length, ← Int.natCast_add_one, ints, List.map_replicate]
    exact if_neg (natCast_not_neg _)
  unfold programReadCounts
  rw [hm]
  exact readCounts_loop1_tie p (toGs p) _

theorem ints_depsStep (ds : List Nat) (o : Op) :
    ints (depsStep ds o) = ints ds ++ [((ds.getD o.1 0 ||| ds.getD o.2 0 ||| 2 ^ ds.length : Nat) : Int)] := by
  simp [ints, depsStep]

theorem deps_loop_tie : ∀ (q : List Op) (p : List GOp) (ds : List Nat) (i : Int),
    i + 1 = (ds.length : Int) →
    programDependencies_loop1 (toGs q) i p (ints ds) =
      (q.foldlM (fun (ds : List Nat) o =>
        if o.1 < ds.length ∧ o.2 < ds.length then some (depsStep ds o) else none) ds).map ints := by
  intro q
  induction q with
  | nil => intro p ds i _; rfl
  | cons o q ih =>
    intro p ds i hl
    have hn := (ih p (depsStep ds o) (ds.length : Int) (by simp [depsStep])).symm
    rw [ints_depsStep] at hn
    simp only [toGs_cons, programDependencies_loop1, List.foldlM_cons, toG, hl, go_simp, idx_ints_bind,
      ← ite_and, apply_ite (Option.map ints), Option.map_none, hn]

theorem dependencies_tie (p : List Op) :
    programDependencies (toGs p) = (dependencies p).map ints :=
  deps_loop_tie p (toGs p) [1] 0 rfl

end AC.ProgramTie
