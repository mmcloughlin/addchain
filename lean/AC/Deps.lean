import AC.Prim
/-! C18 prototype: `Program.Dependencies` is the reflexive-transitive closure of the operand
    relation, stated as its defining recursion. -/
namespace P.Prim

/-- the bitset of position `k ≥ 1` is exactly `{k}` ∪ the bitsets of its two operands; position 0
    is `{0}`; operands are earlier positions -/
structure DExact (q : List (Nat × Nat)) (ds : List Nat) : Prop where
  len : ds.length = q.length + 1
  zero : ∀ j, (ds.getD 0 0).testBit j = true ↔ j = 0
  inr : ∀ k, 1 ≤ k → k ≤ q.length → (opAt q k).1 < k ∧ (opAt q k).2 < k
  unfold : ∀ k, 1 ≤ k → k ≤ q.length → ∀ j,
    (ds.getD k 0).testBit j = true ↔
      (j = k ∨ (ds.getD (opAt q k).1 0).testBit j = true ∨ (ds.getD (opAt q k).2 0).testBit j = true)

theorem dexact_nil : DExact [] [1] := by
  refine ⟨rfl, fun j => ?_, fun k h1 h2 => absurd (Nat.le_trans h1 h2) (Nat.not_succ_le_zero 0),
    fun k h1 h2 => absurd (Nat.le_trans h1 h2) (Nat.not_succ_le_zero 0)⟩
  cases j with
  | zero => exact ⟨fun _ => rfl, fun _ => rfl⟩
  | succ j => simp [Nat.testBit_succ]

theorem dexact_snoc (q : List (Nat × Nat)) (ds : List Nat) (op : Nat × Nat) (h : DExact q ds)
    (h1 : op.1 ≤ q.length) (h2 : op.2 ≤ q.length) : DExact (q ++ [op]) (depsStep ds op) := by
  have hl := h.len
  have hlen : (q ++ [op]).length = q.length + 1 := List.length_append
  -- the rows of the old positions are untouched; the operands of the new op are among them
  have old : ∀ k, k ≤ q.length → (depsStep ds op).getD k 0 = ds.getD k 0 := fun k hk =>
    getD_append_left' _ _ _ (hl ▸ Nat.lt_succ_of_le hk)
  refine ⟨by rw [depsStep, List.length_append, hl, hlen]; rfl,
    fun j => by rw [old 0 (Nat.zero_le _)]; exact h.zero j, fun k hk1 hk => ?_, fun k hk1 hk j => ?_⟩
  · rcases Nat.eq_or_lt_of_le (hlen ▸ hk) with rfl | hkl
    · rw [opAt_append_last]; exact ⟨Nat.lt_succ_of_le h1, Nat.lt_succ_of_le h2⟩
    · rw [opAt_append_left q op k hk1 (Nat.le_of_lt_succ hkl)]
      exact h.inr k hk1 (Nat.le_of_lt_succ hkl)
  · rcases Nat.eq_or_lt_of_le (hlen ▸ hk) with rfl | hkl
    · rw [opAt_append_last, old _ h1, old _ h2, ← hl, depsStep, getD_append_last']
      simp only [Nat.testBit_or, Nat.testBit_two_pow, Bool.or_eq_true, decide_eq_true_eq]
      rw [or_comm, eq_comm]
    · have hkq := Nat.le_of_lt_succ hkl
      obtain ⟨b1, b2⟩ := h.inr k hk1 hkq
      rw [opAt_append_left q op k hk1 hkq, old k hkq, old _ (Nat.le_trans (Nat.le_of_lt b1) hkq),
        old _ (Nat.le_trans (Nat.le_of_lt b2) hkq)]
      exact h.unfold k hk1 hkq j

/-- **`Dependencies` satisfies the defining recursion of the reflexive-transitive closure** -/
theorem deps_exact (p : List (Nat × Nat)) (h : InRangeP p 0) : DExact p (depsL p) :=
  depsL_induct dexact_nil dexact_snoc p h

end P.Prim
