import AC.ScriptFull
/-! Every tree the parser returns is well-formed (C07, `parse_image_wf`), by inversion of the parser
model.  The F10 condition holds of an identifier in `ShiftExpr` position because the doubling
alternative is tried first and would have succeeded.  The only `WFTree` condition the parser does
not establish is `0 ≤ index` (F8: `[18446744073709551615]` is `Operand(-1)`): it is a hypothesis. -/
namespace P.PegF
open AC.Gen
open P.Peg hiding Expr Stmt expr assignment ret starA chainP eol eof ws1 optU retKw

/-- every result of `p`, on any input and with any flag, satisfies `Q` -/
structure Post {α : Type} (p : P α) (Q : α → Prop) : Prop where
  out : ∀ {s e v s' e'}, p s e = (some (v, s'), e') → Q v

theorem bind_some {α β : Type} {p : P α} {f : α → P β} {s : List Char} {e : Bool} {r : β × List Char} {e' : Bool}
    (h : (p >>= f) s e = (some r, e')) :
    ∃ a s1 e1, p s e = (some (a, s1), e1) ∧ f a s1 e1 = (some r, e') := by
  rw [bind_def] at h
  rcases hp : p s e with ⟨_ | ⟨a, s1⟩, e1⟩
  · rw [hp] at h; cases h
  · rw [hp] at h; exact ⟨a, s1, e1, rfl, h⟩

theorem por_some {α : Type} {p q : P α} {s : List Char} {e : Bool} {r : α × List Char} {e' : Bool}
    (h : por p q s e = (some r, e')) :
    p s e = (some r, e') ∨ ∃ e1, p s e = (none, e1) ∧ q s e1 = (some r, e') := by
  unfold por at h
  rcases hp : p s e with ⟨_ | r1, e1⟩
  · rw [hp] at h; exact Or.inr ⟨e1, rfl, h⟩
  · rw [hp] at h; exact Or.inl h

section
variable {α β : Type} {p q : P α} {f : α → P β} {Q R : α → Prop} {Q' : β → Prop}

theorem Post.bind (hp : Post p R) (hf : ∀ a, R a → Post (f a) Q') : Post (p >>= f) Q' :=
  ⟨fun h => by obtain ⟨a, _, _, h1, h2⟩ := bind_some h; exact (hf a (hp.out h1)).out h2⟩
theorem Post.skip (hf : ∀ a, Post (f a) Q') : Post (p >>= f) Q' :=
  ⟨fun h => by obtain ⟨a, _, _, _, h2⟩ := bind_some h; exact (hf a).out h2⟩
theorem post_pure {a : α} (h : Q a) : Post (pure a : P α) Q := ⟨fun h' => by cases h'; exact h⟩
theorem Post.orElse (hp : Post p Q) (hq : Post q Q) : Post (por p q) Q :=
  ⟨fun h => by
    rcases por_some h with h | ⟨_, _, h⟩
    · exact hp.out h
    · exact hq.out h⟩
end

theorem post_loop {α β : Type} {step : P β} {g : α → β → α} {loop : Nat → α → P α} {R : β → Prop} {Q : α → Prop}
    (hl : Gram.IsStar step g loop) (hstep : Post step R) (hg : ∀ acc y, Q acc → R y → Q (g acc y)) :
    ∀ n acc, Q acc → Post (loop n acc) Q := by
  intro n
  induction n with
  | zero => intro acc hacc; rw [hl.zero]; exact post_pure hacc
  | succ n ih =>
    intro acc hacc
    refine ⟨fun {s e v s' e'} h => ?_⟩
    rcases hstep' : step s e with ⟨_ | ⟨y, s1⟩, e1⟩
    · rw [hl.done hstep'] at h; cases h; exact hacc
    · rw [hl.more hstep'] at h; exact (ih _ (hg _ _ hacc (hstep.out hstep'))).out h

theorem all_takeWhile (p : Char → Bool) : ∀ (l : List Char) (x : Char), x ∈ l.takeWhile p → p x = true := by
  intro l
  induction l with
  | nil => intro x hx; simp at hx
  | cons a t ih =>
    intro x hx
    by_cases ha : p a = true
    · simp only [List.takeWhile, ha] at hx
      rcases List.mem_cons.1 hx with rfl | hx
      · exact ha
      · exact ih x hx
    · simp [List.takeWhile, ha] at hx

theorem endTok_dropWhile (s : List Char) : EndTok (s.dropWhile isIdChar) := by
  induction s with
  | nil => exact endTok_nil
  | cons a t ih =>
    cases h : isIdChar a with
    | true => simpa [List.dropWhile, h] using ih
    | false => simpa [List.dropWhile, h] using endTok_cons h

theorem ident_some {s : List Char} {e : Bool} {n s' : List Char} {e' : Bool}
    (h : ident s e = (some (n, s'), e')) : ValidIdent n ∧ s = n ++ s' := by
  unfold ident at h
  cases s with
  | nil => cases h
  | cons c cs =>
    by_cases hc : isIdStart c = true
    · simp only [hc, if_true] at h
      cases h
      exact ⟨⟨c, _, rfl, hc, all_takeWhile isIdChar cs⟩, by simp [List.takeWhile_append_dropWhile]⟩
    · simp [hc] at h

theorem post_ident : Post ident ValidIdent := ⟨fun h => (ident_some h).1⟩

/-- the hex and octal rules return nothing or a clamped value -/
theorem clamp_some {c : Prop} [Decidable c] {v v' : Nat} {r s' : List Char} {e e2 e' : Bool}
    (h : (if c then (none, e) else (some (if v ≥ 2 ^ 64 then 0 else v, r), e2)) = (some (v', s'), e')) :
    v' < 2 ^ 64 := by
  split at h
  · cases h
  · cases h
    split
    · exact Nat.two_pow_pos 64
    · exact Nat.lt_of_not_le ‹_›

theorem post_hexLit : Post hexLit (· < 2 ^ 64) := ⟨fun {s e v s' e'} h => by
  unfold hexLit at h
  split at h
  · exact clamp_some h
  · cases h⟩

theorem post_octLit : Post octLit (· < 2 ^ 64) := ⟨fun {s e v s' e'} h => by
  unfold octLit at h
  split at h
  · exact clamp_some h
  · cases h⟩

theorem post_uintLit : Post uintLit (· < 2 ^ 64) := ⟨fun {s e v s' e'} h => by
  unfold uintLit at h
  dsimp only at h
  split at h
  · cases h
  · cases h
    split
    · exact Nat.two_pow_pos 64
    · rename_i hb
      simp only [Bool.or_eq_true, decide_eq_true_eq, not_or] at hb
      exact Nat.lt_of_not_le hb.2⟩

theorem post_uintLitFull : Post uintLitFull (· < 2 ^ 64) :=
  post_hexLit.orElse (post_octLit.orElse post_uintLit)

theorem wrapInt_lt (u : Nat) (h : u < 2 ^ 64) : wrapInt u < 2 ^ 63 := by
  unfold wrapInt
  split <;> omega

def NonNeg : Expr → Prop
  | .operand i => 0 ≤ i
  | .ident _ => True
  | .add x y => NonNeg x ∧ NonNeg y
  | .shift x _ => NonNeg x
  | .double x => NonNeg x

/-- well-formed as soon as no operand index is negative -/
def Img (b : Bool) (v : Expr) : Prop := NonNeg v → WF b v

theorem Img.weaken {b : Bool} {v : Expr} (h : Img b v) : Img false v := fun hn => (h hn).weaken

theorem post_one (b : Bool) : Post one (Img b) :=
  .skip fun _ => post_pure fun _ => .operand _ _ (by decide) (by decide)

theorem post_index (b : Bool) : Post index (Img b) :=
  .skip fun _ => .skip fun _ => post_uintLitFull.bind fun u hu => .skip fun _ => .skip fun _ =>
    post_pure fun hn => .operand _ _ hn (wrapInt_lt u hu)

theorem identE_some {s : List Char} {e : Bool} {v : Expr} {s' : List Char} {e' : Bool}
    (h : identE s e = (some (v, s'), e')) : ∃ n, v = .ident n ∧ ValidIdent n ∧ s = n ++ s' := by
  obtain ⟨n, s1, _, hn, h⟩ := bind_some h
  cases h
  exact ⟨n, rfl, ident_some hn⟩

theorem post_paren {rec : P Expr} (hrec : Post rec (Img true)) : Post (parenP rec) (Img true) :=
  .skip fun _ => .skip fun _ => hrec.bind fun _ hx => .skip fun _ => .skip fun _ => post_pure hx

/-- a base expression is either well-formed in any position or a bare identifier read from the
    front of the input -/
theorem base_sound (rec : P Expr) (hrec : Post rec (Img true)) {s : List Char} {e : Bool} {v : Expr}
    {s' : List Char} {e' : Bool} (h : base rec s e = (some (v, s'), e')) :
    Img true v ∨ ∃ n, v = .ident n ∧ ValidIdent n ∧ s = n ++ s' := by
  rcases por_some (show por (parenP rec) operand s e = _ from h) with h | ⟨_, _, h⟩
  · exact Or.inl ((post_paren hrec).out h)
  · rcases por_some (show por one (por index identE) s _ = _ from h) with h | ⟨_, _, h⟩
    · exact Or.inl ((post_one true).out h)
    · rcases por_some h with h | ⟨_, _, h⟩
      · exact Or.inl ((post_index true).out h)
      · exact Or.inr (identE_some h)

theorem post_base {rec : P Expr} (hrec : Post rec (Img true)) : Post (base rec) (Img false) :=
  ⟨fun h => by
    rcases base_sound rec hrec h with h | ⟨n, rfl, hv, _⟩
    · exact h.weaken
    · exact fun _ => .ident _ _ hv (fun hb => by cases hb)⟩

theorem alt2_some_of_dbl (rec : P Expr) (c : Char) (rest : List Char) (e : Bool)
    (hc : c = '1' ∨ isIdStart c = true) :
    ∃ r e', shiftAlt2 rec ('d' :: 'b' :: 'l' :: c :: rest) e = (some r, e') := by
  have hb : ∃ x r, Reads (Gram.base operand rec) (c :: rest) x r := by
    rw [operand_eq]
    rcases hc with rfl | hc
    · exact ⟨_, _, Gram.reads_base_one rest⟩
    · have h := Gram.reads_base_ident (rec := rec) (one := Expr.operand 0)
        (index := fun i => Expr.operand (wrapInt i)) (name := Expr.ident) (num := uintLitFull)
        ⟨c, _, rfl, hc, all_takeWhile isIdChar rest⟩ (endTok_dropWhile rest)
      rw [List.cons_append, List.takeWhile_append_dropWhile] at h
      exact ⟨_, _, h⟩
  obtain ⟨x, r, hb⟩ := hb
  have hw : isWs c = false := by
    rcases hc with rfl | hc
    · decide
    · exact not_isWs_of_isIdChar (isIdChar_of_isIdStart hc)
  refine ⟨_, _, (?_ : Reads (shiftAlt2 rec) _ (.double x) r).run e⟩
  rw [shiftAlt2_eq]
  apply (reads_ws_of (dropWs_cons (by decide) _)).bind
  apply (reads_doubleOp_dbl _).bind
  apply (reads_ws_of (dropWs_cons hw _)).bind
  apply hb.bind
  exact reads_pure _ _

theorem shiftE_sound {rec : P Expr} (hrec : Post rec (Img true)) : Post (shiftE rec) (Img true) := by
  have h1 : Post (shiftAlt1 rec) (Img true) :=
    .skip fun _ => (post_base hrec).bind fun x hx => .skip fun _ => .skip fun _ => .skip fun _ =>
      post_uintLitFull.bind fun k hk => .skip fun _ => post_pure fun hn => .shift _ _ _ (hx hn) hk
  have h2 : Post (shiftAlt2 rec) (Img true) :=
    .skip fun _ => .skip fun _ => .skip fun _ => (post_base hrec).bind fun x hx =>
      post_pure fun hn => .double _ _ (hx hn)
  refine ⟨fun {s e v s' e'} h => ?_⟩
  rcases por_some (show por (shiftAlt1 rec) (por (shiftAlt2 rec) (base rec)) s e = _ from h) with h | ⟨e1, _, h⟩
  · exact h1.out h
  · rcases por_some h with h | ⟨e2, hf2, h⟩
    · exact h2.out h
    · -- a bare base expression: the doubling alternative has failed on this input
      rcases base_sound rec hrec h with h | ⟨n, rfl, hv, hs⟩
      · exact h
      · intro _
        refine .ident _ _ hv (fun _ => ?_)
        intro c t hn
        subst hn
        have hs' : s = 'd' :: 'b' :: 'l' :: c :: (t ++ s') := by rw [hs]; rfl
        rw [hs'] at hf2
        have hnot : ¬ (c = '1' ∨ isIdStart c = true) := fun hc => by
          obtain ⟨r, e'', hr⟩ := alt2_some_of_dbl rec c (t ++ s') e1 hc
          rw [hr] at hf2; cases hf2
        exact ⟨fun h => hnot (Or.inl h), Bool.eq_false_iff.2 fun h => hnot (Or.inr h)⟩

theorem addE_sound {rec : P Expr} (hrec : Post rec (Img true)) : Post (addE rec) (Img true) := by
  have hstep : Post (Gram.addStep (shiftE rec)) (Img true) :=
    .skip fun _ => .skip fun _ => .skip fun _ => shiftE_sound hrec
  have hloop := post_loop (Q := Img true) (addRest_isStar rec) hstep
    (fun acc y ha hy hn => .add _ _ _ (ha hn.1) (hy hn.2))
  exact ⟨fun {s e v s' e'} h => Post.out (p := do ws; let x ← shiftE rec; let r ← addRest rec s.length x; ws; pure r)
    (.skip fun _ => (shiftE_sound hrec).bind fun x hx => (hloop _ x hx).bind fun r hr => .skip fun _ => post_pure hr) h⟩

theorem expr_sound : ∀ (n : Nat), Post (expr n) (Img true) := by
  intro n
  induction n with
  | zero => exact ⟨fun h => by cases h⟩
  | succ n ih => exact addE_sound ih

def GoodStmt (st : Stmt) : Prop := ValidIdent st.name ∧ Img true st.e

theorem assignment_sound (fuel : Nat) : Post (assignment fuel) GoodStmt :=
  .skip fun _ => post_ident.bind fun _ hn => .skip fun _ => .skip fun _ => .skip fun _ =>
    (expr_sound fuel).bind fun _ hx => .skip fun _ => .skip fun _ => post_pure ⟨hn, hx⟩

theorem ret_sound (fuel : Nat) : Post (ret fuel) (fun st => ∃ x, st = ⟨[], x⟩ ∧ Img true x) :=
  .skip fun _ => .skip fun _ => (expr_sound fuel).bind fun x hx => .skip fun _ => .skip fun _ =>
    post_pure ⟨x, rfl, hx⟩

theorem chainP_sound (fuel : Nat) {s : List Char} {e : Bool} {t : Tree} {s' : List Char} {e' : Bool}
    (h : chainP fuel s e = (some (t, s'), e')) :
    ∃ as x, t = as ++ [⟨[], x⟩] ∧ (∀ st ∈ as, GoodStmt st) ∧ Img true x := by
  have hloop := post_loop (Q := fun as => ∀ st ∈ as, GoodStmt st) (starA_isStar fuel) (assignment_sound fuel)
    (fun acc y ha hy st hst => by
      rcases List.mem_append.1 hst with h | h
      · exact ha st h
      · rw [List.mem_singleton.1 h]; exact hy)
  have hpost : Post (do let as ← starA fuel s.length []; let r ← ret fuel; ws; eof; pure (as ++ [r]))
      (fun t => ∃ as x, t = as ++ [⟨[], x⟩] ∧ (∀ st ∈ as, GoodStmt st) ∧ Img true x) :=
    (hloop _ [] (fun _ h => by cases h)).bind fun as has => (ret_sound fuel).bind fun r hr =>
      .skip fun _ => .skip fun _ => post_pure (by
        obtain ⟨x, rfl, hx⟩ := hr
        exact ⟨as, x, rfl, has, hx⟩)
  exact hpost.out h

/-- no operand index of the tree is negative (what F8 violates) -/
def NonNegTree (t : Tree) : Prop := ∀ st ∈ t, NonNeg st.e

theorem parse_ok {s : List Char} {t : Tree} (h : parse s = .ok t) :
    ∃ r, chainP (s.length + 1) s false = (some (t, r), false) := by
  unfold parse at h
  split at h
  · rename_i t' r heq
    cases h
    exact ⟨r, heq⟩
  · cases h

theorem parse_image_wf {s : List Char} {t : Tree} (h : parse s = .ok t) (hn : NonNegTree t) : WFTree t := by
  obtain ⟨r, hc⟩ := parse_ok h
  obtain ⟨as, x, rfl, has, hx⟩ := chainP_sound _ hc
  refine ⟨as, x, rfl, ?_, ?_⟩
  · intro st hst
    exact ⟨(has st hst).1, (has st hst).2 (hn st (by simp [hst]))⟩
  · exact hx (hn ⟨[], x⟩ (by simp))

theorem validIdentB_iff (s : List Char) : validIdentB s = true ↔ ValidIdent s := by
  cases s with
  | nil => simp [validIdentB, ValidIdent]
  | cons c cs =>
    simp only [validIdentB, Bool.and_eq_true, List.all_eq_true]
    constructor
    · rintro ⟨h1, h2⟩; exact ⟨c, cs, rfl, h1, h2⟩
    · rintro ⟨c', cs', heq, h1, h2⟩
      injection heq with ha hb
      subst ha; subst hb
      exact ⟨h1, h2⟩

theorem safeIdentB_iff (s : List Char) : safeIdentB s = true ↔ SafeIdent s := by
  unfold SafeIdent
  constructor
  · intro h c t hs
    subst hs
    simp only [safeIdentB, Bool.not_eq_true', Bool.or_eq_false_iff, beq_eq_false_iff_ne, ne_eq] at h
    exact h
  · intro h
    unfold safeIdentB
    split
    · rename_i c t
      obtain ⟨h1, h2⟩ := h c t rfl
      simp [h1, h2]
    · rfl

theorem wfExprB_iff : ∀ (v : Expr) (b : Bool), wfExprG idxB safeIdentB b v = true ↔ WF b v := by
  intro v
  induction v with
  | operand i =>
    intro b
    simp only [wfExprG, idxB, Bool.and_eq_true, decide_eq_true_eq]
    constructor
    · rintro ⟨h1, h2⟩; exact .operand _ _ h1 h2
    · intro h; cases h with | operand _ _ h1 h2 => exact ⟨h1, h2⟩
  | ident s =>
    intro b
    simp only [wfExprG, Bool.and_eq_true, Bool.or_eq_true, Bool.not_eq_true', validIdentB_iff, safeIdentB_iff]
    constructor
    · rintro ⟨h1, h2⟩
      refine .ident _ _ h1 (fun hb => ?_)
      rcases h2 with h2 | h2
      · rw [hb] at h2; cases h2
      · exact h2
    · intro h
      cases h with
      | ident _ _ h1 h2 =>
        refine ⟨h1, ?_⟩
        cases b with
        | false => exact Or.inl rfl
        | true => exact Or.inr (h2 rfl)
  | add x y ihx ihy =>
    intro b
    simp only [wfExprG, Bool.and_eq_true, ihx, ihy]
    constructor
    · rintro ⟨h1, h2⟩; exact .add _ _ _ h1 h2
    · intro h; cases h with | add _ _ _ h1 h2 => exact ⟨h1, h2⟩
  | shift x k ih =>
    intro b
    simp only [wfExprG, Bool.and_eq_true, ih, decide_eq_true_eq]
    constructor
    · rintro ⟨h1, h2⟩; exact .shift _ _ _ h1 h2
    · intro h; cases h with | shift _ _ _ h1 h2 => exact ⟨h1, h2⟩
  | double x ih =>
    intro b
    simp only [wfExprG, ih]
    constructor
    · intro h1; exact .double _ _ h1
    · intro h; cases h with | double _ _ h1 => exact h1

theorem wfTreeB_iff (t : Tree) : wfTreeB t = true ↔ WFTree t := by
  unfold wfTreeB WFTree
  induction t with
  | nil =>
    simp only [wfTreeG]
    constructor
    · intro h; cases h
    · rintro ⟨as, x, h, _⟩
      cases as <;> simp at h
  | cons st r ih =>
    cases r with
    | nil =>
      simp only [wfTreeG, Bool.and_eq_true, wfExprB_iff]
      constructor
      · rintro ⟨h1, h2⟩
        refine ⟨[], st.e, ?_, (fun _ h => by cases h), h2⟩
        have : st.name = [] := by
          cases hn : st.name with
          | nil => rfl
          | cons a b => rw [hn] at h1; cases h1
        cases st
        simp only at this
        subst this
        rfl
      · rintro ⟨as, x, h, _, hx⟩
        cases as with
        | nil =>
          simp only [List.nil_append, List.cons.injEq, and_true] at h
          subst h
          exact ⟨rfl, hx⟩
        | cons a as' =>
          simp only [List.cons_append, List.cons.injEq] at h
          cases as' <;> simp at h
    | cons st2 r2 =>
      simp only [wfTreeG, Bool.and_eq_true, wfExprB_iff, validIdentB_iff]
      constructor
      · rintro ⟨⟨h1, h2⟩, h3⟩
        obtain ⟨as, x, heq, hall, hx⟩ := ih.1 h3
        refine ⟨st :: as, x, by rw [heq]; rfl, ?_, hx⟩
        intro s hs
        rcases List.mem_cons.1 hs with rfl | hs
        · exact ⟨h1, h2⟩
        · exact hall s hs
      · rintro ⟨as, x, heq, hall, hx⟩
        cases as with
        | nil => simp at heq
        | cons a as' =>
          simp only [List.cons_append, List.cons.injEq] at heq
          obtain ⟨rfl, heq⟩ := heq
          exact ⟨hall _ (by simp), ih.2 ⟨as', x, heq, fun s hs => hall s (by simp [hs]), hx⟩⟩

end P.PegF
