import AC.ChainFacts
/-! C11 prototype: `dict.RunsChain`. -/
namespace P

def onesI (n : Nat) : Int := 2 ^ n - 1

/-- append-only construction: the chain so far and the largest shift present for each length -/
structure RS where
  c : List Int
  s : Nat → Nat

/-- the inner `for ; s[lb] < la; s[lb]++` loop, `k` iterations starting at shift `sh` -/
def extend (rb : Int) : Nat → Nat → List Int → List Int
  | 0, _, c => c
  | k+1, sh, c => extend rb k (sh + 1) (c ++ [rb * 2 ^ (sh + 1)])

def runsStep (lc : List Int) (st : RS) (op : Nat × Nat) : RS :=
  let x := at' lc op.1
  let y := at' lc op.2
  let la := (min x y).toNat
  let lb := (max x y).toNat
  let c1 := extend (onesI lb) (la - st.s lb) (st.s lb) st.c
  { c := c1 ++ [onesI (la + lb)],
    s := fun l => if l = lb then max (st.s lb) la else st.s l }

def runsChain (lc : List Int) (p : List (Nat × Nat)) : List Int :=
  (p.foldl (runsStep lc) ⟨[1], fun _ => 0⟩).c

theorem onesI_nonneg (n : Nat) : 0 ≤ onesI n :=
  Int.sub_nonneg_of_le (Int.pow_pos (by decide))

theorem onesI_succ (b : Nat) : onesI (b + 1) = 2 * onesI b + 1 := by
  unfold onesI
  rw [Int.pow_succ]
  omega

theorem onesI_odd (b : Nat) (hb : 1 ≤ b) : onesI b % 2 = 1 := by
  obtain ⟨b', rfl⟩ := Nat.exists_eq_add_one.2 hb
  rw [onesI_succ]
  omega

theorem onesI_pos (b : Nat) (hb : 1 ≤ b) : 1 ≤ onesI b := by
  obtain ⟨b', rfl⟩ := Nat.exists_eq_add_one.2 hb
  have := onesI_nonneg b'
  rw [onesI_succ]
  omega

/-! `(2^b − 1)·2^j` determines `b ≥ 1` and `j`: the chain built holds each shifted run once. -/
theorem odd_mul_pow_inj : ∀ (j j' : Nat) (a a' : Int), a % 2 = 1 → a' % 2 = 1 →
    a * 2 ^ j = a' * 2 ^ j' → j = j' ∧ a = a'
  | 0, 0, _, _, _, _, h => ⟨rfl, by simpa using h⟩
  | 0, k+1, a, a', ha, _, h => by
    rw [Int.pow_zero, Int.mul_one, Int.pow_succ, ← Int.mul_assoc] at h
    rw [h, Int.mul_emod_left] at ha; exact absurd ha (by decide)
  | j+1, 0, a, a', _, ha', h => by
    rw [Int.pow_zero, Int.mul_one, Int.pow_succ, ← Int.mul_assoc] at h
    rw [← h, Int.mul_emod_left] at ha'; exact absurd ha' (by decide)
  | j+1, k+1, a, a', ha, ha', h => by
    rw [Int.pow_succ, Int.pow_succ, ← Int.mul_assoc, ← Int.mul_assoc] at h
    obtain ⟨e1, e2⟩ := odd_mul_pow_inj j k a a' ha ha' (Int.eq_of_mul_eq_mul_right (by decide) h)
    exact ⟨congrArg (· + 1) e1, e2⟩

theorem onesI_inj (b b' : Nat) (h : onesI b = onesI b') : b = b' := by
  unfold onesI at h
  have h2 : (2 : Int) ^ b = 2 ^ b' := by omega
  have h3 : (2 : Nat) ^ b = 2 ^ b' := by exact_mod_cast h2
  exact (Nat.pow_right_inj (by omega)).1 h3

theorem run_shift_inj (b b' j j' : Nat) (hb : 1 ≤ b) (hb' : 1 ≤ b')
    (h : onesI b * 2 ^ j = onesI b' * 2 ^ j') : b = b' ∧ j = j' := by
  obtain ⟨e1, e2⟩ := odd_mul_pow_inj j j' _ _ (onesI_odd b hb) (onesI_odd b' hb') h
  exact ⟨onesI_inj b b' e2, e1⟩

theorem onesI_add (a b : Nat) : onesI (a + b) = onesI b * 2 ^ a + onesI a := by
  unfold onesI
  rw [Int.pow_add, Int.sub_mul, Int.mul_comm ((2 : Int) ^ a) (2 ^ b)]
  omega

theorem mem_extend (rb x : Int) : ∀ (k sh : Nat) (c : List Int),
    x ∈ extend rb k sh c ↔ x ∈ c ∨ ∃ t, sh < t ∧ t ≤ sh + k ∧ x = rb * 2 ^ t
  | 0, sh, c => by
    simp only [extend, Nat.add_zero]
    exact ⟨Or.inl, fun h => h.elim id fun ⟨t, h1, h2, _⟩ => absurd h1 (Nat.not_lt.2 h2)⟩
  | k+1, sh, c => by
    rw [extend, mem_extend rb x k (sh + 1), List.mem_append, List.mem_singleton, or_assoc]
    refine or_congr_right ⟨?_, ?_⟩
    · rintro (h | ⟨t, h1, h2, h3⟩)
      · exact ⟨sh + 1, Nat.lt_succ_self sh, Nat.add_le_add_left (Nat.le_add_left 1 k) sh, h⟩
      · exact ⟨t, Nat.lt_of_succ_lt h1, Nat.add_right_comm sh 1 k ▸ h2, h3⟩
    · rintro ⟨t, h1, h2, h3⟩
      rcases Nat.eq_or_lt_of_le (Nat.succ_le_of_lt h1) with rfl | e
      · exact Or.inl h3
      · exact Or.inr ⟨t, e, Nat.add_right_comm sh 1 k ▸ h2, h3⟩

theorem extend_spec (lb : Nat) (hlb : 1 ≤ lb) : ∀ (k sh : Nat) (c : List Int), IsChain c →
    onesI lb * 2 ^ sh ∈ c → (∀ t, sh < t → onesI lb * 2 ^ t ∉ c) →
    IsChain (extend (onesI lb) k sh c) ∧
    (∀ x, x ∈ extend (onesI lb) k sh c ↔ x ∈ c ∨ ∃ t, sh < t ∧ t ≤ sh + k ∧ x = onesI lb * 2 ^ t) := by
  refine fun k sh c hc hmem hnot => ⟨?_, fun x => mem_extend _ x k sh c⟩
  induction k generalizing sh c with
  | zero => exact hc
  | succ k ih =>
    -- the next shift is the double of the last one, and new since no larger shift is present
    have hdbl : onesI lb * 2 ^ (sh + 1) = onesI lb * 2 ^ sh + onesI lb * 2 ^ sh := by
      rw [Int.pow_succ, ← Int.mul_assoc, Int.mul_comm _ 2, Int.two_mul]
    refine ih (sh + 1) _ ?_ (List.mem_append_right _ (List.mem_singleton_self _)) fun t ht hin => ?_
    · rw [hdbl]
      exact isChain_append_sum c _ _ hc hmem hmem (hdbl ▸ hnot (sh + 1) (Nat.lt_succ_self sh))
    · rcases List.mem_append.1 hin with h | h
      · exact hnot t (Nat.lt_of_succ_lt ht) h
      · exact Nat.ne_of_gt ht (run_shift_inj lb lb t (sh + 1) hlb hlb (List.mem_singleton.1 h)).2

structure RInv (L : List Nat) (st : RS) : Prop where
  chain : IsChain st.c
  mem : ∀ x, x ∈ st.c ↔ ∃ b j, b ∈ L ∧ j ≤ st.s b ∧ x = onesI b * 2 ^ j
  pos : ∀ b ∈ L, 1 ≤ b
  fresh : ∀ b, b ∉ L → st.s b = 0
  /-- the largest shift recorded for a length, added to it, is a length reached: the shifted run
      stays below the longest run -/
  shift : ∀ b ∈ L, b + st.s b ∈ L

def runsStepN (st : RS) (la lb : Nat) : RS :=
  let c1 := extend (onesI lb) (la - st.s lb) (st.s lb) st.c
  { c := c1 ++ [onesI (la + lb)],
    s := fun l => if l = lb then max (st.s lb) la else st.s l }

/-- how `{f b j | b ∈ L, j ≤ s b}` grows when the bound of one `lb ∈ L` is raised to `M` and a new `n`
    with bound 0 joins `L` -/
theorem shifts_update (f : Nat → Nat → Int) (L : List Nat) (s : Nat → Nat) (lb n M : Nat)
    (hlb : lb ∈ L) (hn : n ∉ L) (hsn : s n = 0) (hM : s lb ≤ M) (x : Int) :
    (∃ b j, b ∈ L ++ [n] ∧ j ≤ (if b = lb then M else s b) ∧ x = f b j) ↔
    ((∃ b j, b ∈ L ∧ j ≤ s b ∧ x = f b j) ∨ ∃ t, s lb < t ∧ t ≤ M ∧ x = f lb t) ∨ x = f n 0 := by
  constructor
  · rintro ⟨b, j, hb, hj, rfl⟩
    rcases List.mem_append.1 hb with hb | hb
    · by_cases hbl : b = lb
      · subst hbl
        rw [if_pos rfl] at hj
        by_cases hjs : j ≤ s b
        · exact .inl (.inl ⟨b, j, hb, hjs, rfl⟩)
        · exact .inl (.inr ⟨j, Nat.lt_of_not_le hjs, hj, rfl⟩)
      · rw [if_neg hbl] at hj
        exact .inl (.inl ⟨b, j, hb, hj, rfl⟩)
    · obtain rfl := List.mem_singleton.1 hb
      rw [if_neg (show b ≠ lb from fun e => hn (e ▸ hlb)), hsn] at hj
      obtain rfl := Nat.le_zero.1 hj
      exact .inr rfl
  · rintro ((⟨b, j, hb, hj, rfl⟩ | ⟨t, _, ht, rfl⟩) | rfl)
    · refine ⟨b, j, List.mem_append_left _ hb, ?_, rfl⟩
      split
      · next h => exact Nat.le_trans (h ▸ hj) hM
      · exact hj
    · exact ⟨lb, t, List.mem_append_left _ hlb, by rw [if_pos rfl]; exact ht, rfl⟩
    · exact ⟨n, 0, List.mem_append_right _ (List.mem_singleton_self n), Nat.zero_le _, rfl⟩

theorem runsStepN_inv (L : List Nat) (st : RS) (la lb : Nat) (hI : RInv L st)
    (hla : la ∈ L) (hlb : lb ∈ L) (hnew : la + lb ∉ L) :
    RInv (L ++ [la + lb]) (runsStepN st la lb) := by
  have hla1 := hI.pos la hla
  have hlb1 := hI.pos lb hlb
  have hsum1 : 1 ≤ la + lb := Nat.le_trans hla1 (Nat.le_add_right _ _)
  have hbase : onesI lb * 2 ^ (st.s lb) ∈ st.c := (hI.mem _).2 ⟨lb, st.s lb, hlb, Nat.le_refl _, rfl⟩
  have hnot : ∀ t, st.s lb < t → onesI lb * 2 ^ t ∉ st.c := by
    intro t ht hin
    obtain ⟨b, j, hb, hj, he⟩ := (hI.mem _).1 hin
    obtain ⟨rfl, rfl⟩ := run_shift_inj lb b t j hlb1 (hI.pos b hb) he
    exact Nat.not_le.2 ht hj
  obtain ⟨hc1, hm1⟩ := extend_spec lb hlb1 (la - st.s lb) (st.s lb) st.c hI.chain hbase hnot
  -- the loop raises the largest shift of `lb` to `max (st.s lb) la`
  rw [show st.s lb + (la - st.s lb) = max (st.s lb) la by
    rw [Nat.add_comm, Nat.sub_add_eq_max, Nat.max_comm]] at hm1
  have hmem : ∀ x, x ∈ (runsStepN st la lb).c ↔
      ∃ b j, b ∈ L ++ [la + lb] ∧ j ≤ (runsStepN st la lb).s b ∧ x = onesI b * 2 ^ j := by
    intro x
    refine Iff.trans ?_ (shifts_update (fun b j => onesI b * 2 ^ j) L st.s lb (la + lb) (max (st.s lb) la)
      hlb hnew (hI.fresh _ hnew) (Nat.le_max_left _ _) x).symm
    simp only [runsStepN, List.mem_append, List.mem_singleton, hm1, hI.mem x, Int.pow_zero, Int.mul_one]
  have hA : onesI lb * 2 ^ la ∈ extend (onesI lb) (la - st.s lb) (st.s lb) st.c := by
    rw [hm1]
    by_cases h : la ≤ st.s lb
    · exact Or.inl ((hI.mem _).2 ⟨lb, la, hlb, h, rfl⟩)
    · exact Or.inr ⟨la, Nat.lt_of_not_le h, Nat.le_max_right _ _, rfl⟩
  have hB : onesI la ∈ extend (onesI lb) (la - st.s lb) (st.s lb) st.c :=
    (hm1 _).2 (Or.inl ((hI.mem _).2 ⟨la, 0, hla, Nat.zero_le _, (Int.mul_one _).symm⟩))
  -- a run of the new length is neither there already nor a shift of `lb`
  have hN : onesI (la + lb) ∉ extend (onesI lb) (la - st.s lb) (st.s lb) st.c := by
    rw [hm1]
    rintro (h | ⟨t, _, _, h3⟩)
    · obtain ⟨b, j, hb, _, he⟩ := (hI.mem _).1 h
      rw [← Int.mul_one (onesI (la + lb)), ← Int.pow_zero 2] at he
      exact hnew ((run_shift_inj (la + lb) b 0 j hsum1 (hI.pos b hb) he).1 ▸ hb)
    · rw [← Int.mul_one (onesI (la + lb)), ← Int.pow_zero 2] at h3
      have := (run_shift_inj (la + lb) lb 0 t hsum1 hlb1 h3).1
      exact Nat.lt_irrefl _ (Nat.lt_of_lt_of_eq (Nat.lt_add_of_pos_left hla1) this)
  refine ⟨?_, hmem, ?_, ?_, ?_⟩
  · show IsChain (_ ++ [onesI (la + lb)])
    rw [onesI_add la lb]
    exact isChain_append_sum _ _ _ hc1 hA hB (onesI_add la lb ▸ hN)
  · intro b hb
    rcases List.mem_append.mp hb with h | h
    · exact hI.pos b h
    · exact List.mem_singleton.1 h ▸ hsum1
  · intro b hb
    have hbL : b ∉ L := fun h => hb (List.mem_append_left _ h)
    have hne : b ≠ lb := fun e => hbL (e ▸ hlb)
    simp only [runsStepN, hne, if_false]
    exact hI.fresh b hbL
  · intro b hb
    simp only [runsStepN]
    by_cases hbl : b = lb
    · subst hbl
      simp only [if_true]
      rcases Nat.le_total (st.s b) la with h | h
      · rw [Nat.max_eq_right h, Nat.add_comm b la]; simp
      · rw [Nat.max_eq_left h]; exact List.mem_append_left _ (hI.shift b hlb)
    · simp only [hbl, if_false]
      rcases List.mem_append.mp hb with h | h
      · exact List.mem_append_left _ (hI.shift b h)
      · obtain rfl := List.mem_singleton.1 h
        rw [hI.fresh _ hnew]; simp

/-- the (min,max) length pairs read off a valid lengths chain, each over the lengths so far -/
def ValidSteps : List Nat → List (Nat × Nat) → Prop
  | _, [] => True
  | L, (la, lb) :: r => la ∈ L ∧ lb ∈ L ∧ la + lb ∉ L ∧ ValidSteps (L ++ [la + lb]) r

def runSteps (st : RS) (steps : List (Nat × Nat)) : RS := steps.foldl (fun s p => runsStepN s p.1 p.2) st
def lensAfter (L : List Nat) (steps : List (Nat × Nat)) : List Nat := L ++ steps.map (fun p => p.1 + p.2)

theorem lensAfter_nil (L : List Nat) : lensAfter L [] = L := List.append_nil L

theorem lensAfter_cons (L : List Nat) (s : Nat × Nat) (r : List (Nat × Nat)) :
    lensAfter L (s :: r) = lensAfter (L ++ [s.1 + s.2]) r := by
  rw [lensAfter, lensAfter, List.map_cons, List.append_cons]

theorem runSteps_inv : ∀ (steps : List (Nat × Nat)) (L : List Nat) (st : RS), RInv L st → ValidSteps L steps →
    RInv (lensAfter L steps) (runSteps st steps) := by
  intro steps
  induction steps with
  | nil => intro L st h _; rw [lensAfter_nil]; exact h
  | cons p r ih =>
    intro L st h hv
    obtain ⟨la, lb⟩ := p
    obtain ⟨h1, h2, h3, h4⟩ := hv
    rw [lensAfter_cons]
    exact ih (L ++ [la + lb]) (runsStepN st la lb) (runsStepN_inv L st la lb h h1 h2 h3) h4

theorem rinv_init : RInv [1] ⟨[1], fun _ => 0⟩ := by
  refine ⟨isChain_one, fun x => ?_, by simp, fun _ _ => rfl, by simp⟩
  simp only [List.mem_singleton]
  constructor
  · intro h; exact ⟨1, 0, rfl, Nat.le_refl _, by simp [h, onesI]⟩
  · rintro ⟨b, j, rfl, hj, he⟩
    obtain rfl : j = 0 := Nat.le_zero.1 hj
    simp [he, onesI]

/-- **C11 core**: starting from `{1}`, after any valid sequence of length additions the result is
    an addition chain containing `2^l − 1` for every length reached. -/
theorem runs_ok (steps : List (Nat × Nat)) (hv : ValidSteps [1] steps) :
    let st := runSteps ⟨[1], fun _ => 0⟩ steps
    IsChain st.c ∧ ∀ l ∈ lensAfter [1] steps, onesI l ∈ st.c := by
  have h := runSteps_inv steps [1] _ rinv_init hv
  exact ⟨h.chain, fun l hl => (h.mem _).2 ⟨l, 0, hl, Nat.zero_le _, by simp⟩⟩

end P
