/-! Ordered association lists of records with a key and a value field: the laws of metavars'
`File.Get/Add/Set`, proved once for any record type (`key`, `val`, and `upd` to overwrite the value). -/
namespace P.OMap

variable {α κ ν : Type} [BEq κ] (key : α → κ) (val : α → ν) (upd : α → ν → α)

def get (f : List α) (n : κ) : Option ν := (f.find? (key · == n)).map val

def add (f : List α) (p : α) : Except String (List α) :=
  match f.find? (key · == key p) with
  | some _ => .error "exists"
  | none => .ok (f ++ [p])

theorem add_existing (f : List α) (p : α) (h : get key val f (key p) ≠ none) : ∃ e, add key f p = .error e := by
  unfold add
  cases hf : f.find? (key · == key p) with
  | none => simp [get, hf] at h
  | some q => exact ⟨_, rfl⟩

theorem add_new (f : List α) (p : α) (h : get key val f (key p) = none) : add key f p = .ok (f ++ [p]) := by
  unfold add
  cases hf : f.find? (key · == key p) with
  | none => rfl
  | some q => simp [get, hf] at h

variable [LawfulBEq κ] [DecidableEq κ]

def set : List α → κ → ν → Option (List α)
  | [], _, _ => none
  | p :: r, n, v => if key p = n then some (upd p v :: r) else (set r n v).map (p :: ·)

theorem get_cons (p : α) (r : List α) (n : κ) :
    get key val (p :: r) n = if key p = n then some (val p) else get key val r n := by
  by_cases h : key p = n <;> simp [get, h]

theorem get_append_single (f : List α) (p : α) (n : κ) :
    get key val (f ++ [p]) n = (get key val f n).or (if key p = n then some (val p) else none) := by
  induction f with
  | nil => simp [get]
  | cons q f ih => by_cases h : key q = n <;> simp [get_cons, h, ih]

theorem get_add_same (f : List α) (p : α) (h : get key val f (key p) = none) :
    get key val (f ++ [p]) (key p) = some (val p) := by
  simp [get_append_single, h]

theorem get_add_other (f : List α) (p : α) (n : κ) (hn : n ≠ key p) :
    get key val (f ++ [p]) n = get key val f n := by
  simp [get_append_single, Ne.symm hn]

theorem set_unknown (f : List α) (n : κ) (v : ν) (h : get key val f n = none) : set key upd f n v = none := by
  induction f with
  | nil => rfl
  | cons p r ih =>
    rw [get_cons] at h
    split at h
    · cases h
    · next hp => simp [set, hp, ih h]

theorem set_known (f : List α) (n : κ) (v : ν) (h : get key val f n ≠ none) : ∃ f', set key upd f n v = some f' := by
  induction f with
  | nil => exact absurd rfl h
  | cons p r ih =>
    rw [get_cons] at h
    by_cases hp : key p = n
    · exact ⟨upd p v :: r, by simp [set, hp]⟩
    · obtain ⟨r', hr⟩ := ih (by simpa [hp] using h)
      exact ⟨p :: r', by simp [set, hp, hr]⟩

/-- a successful `set` stores the value under its key, leaves every other key as it was and keeps every field `g`
    that `upd` does not touch (so names and docs stay position by position) -/
theorem set_get (hk : ∀ a v, key (upd a v) = key a) (hv : ∀ a v, val (upd a v) = v) (f : List α) (n : κ) (v : ν)
    (f' : List α) (h : set key upd f n v = some f') :
    get key val f' n = some v ∧ (∀ m, m ≠ n → get key val f' m = get key val f m) ∧
      ∀ {β : Type} (g : α → β), (∀ a v, g (upd a v) = g a) → f'.map g = f.map g := by
  induction f generalizing f' with
  | nil => cases h
  | cons p r ih =>
    simp only [set] at h
    split at h
    next hp =>
      cases h
      refine ⟨by simp [get_cons, hk, hv, hp], fun m hm => ?_, fun g hg => by simp [hg]⟩
      simp [get_cons, hk, hp, Ne.symm hm]
    next hp =>
      cases hs : set key upd r n v with
      | none => simp [hs] at h
      | some r' =>
        obtain rfl : p :: r' = f' := by simpa [hs] using h
        obtain ⟨i1, i2, i3⟩ := ih r' hs
        refine ⟨by simp [get_cons, hp, i1], fun m hm => by simp [get_cons, i2 m hm], fun g hg => by simp [i3 g hg]⟩

end P.OMap
