import AC.PeakLive
/-! C05 prototype: naming and the register-machine simulation. -/
namespace P.Alloc

inductive Reg | x | z | t (v : Nat) deriving DecidableEq, Repr

/-- output index of the last instruction that reads index 0 (0 if none) -/
def lastInputRead (ir : List Inst) : Nat :=
  ir.foldl (fun acc inst => if 0 ∈ inst.op.inputs then inst.out else acc) 0

def lastOut (ir : List Inst) : Nat := (ir.getLast?.map (·.out)).getD 0

/-- the name given to index i (temporaries named by their variable; the real numbering is an
    injective relabelling of these) -/
def regOf (ir : List Inst) (i : Nat) : Reg :=
  let s := run ir
  if i = 0 then .x
  else if s.var i = s.var (lastOut ir) ∧ lastInputRead ir ≤ i then .z
  else .t ((s.var i).getD 0)

/-- with aliasing the output register *is* the input register -/
def cellOf (alias : Bool) (r : Reg) : Reg := if alias && r == .z then .x else r

def opVal (env : Nat → Int) : Op → Int
  | .add x y => env x + env y
  | .dbl x => 2 * env x
  | .shl x s => env x * 2 ^ s

def upd {α} [DecidableEq α] (f : α → Int) (k : α) (v : Int) : α → Int := fun j => if j = k then v else f j

/-- chain semantics by index -/
def stepVal (env : Nat → Int) (inst : Inst) : Nat → Int := upd env inst.out (opVal env inst.op)
def envAfter (pre : List Inst) : Nat → Int := pre.foldl stepVal (upd (fun _ => 0) 0 1)

/-- register machine, as acc/eval/interp.go: read the operands, then write the output -/
def execInst (alias : Bool) (ir : List Inst) (regs : Reg → Int) (inst : Inst) : Reg → Int :=
  upd regs (cellOf alias (regOf ir inst.out))
    (opVal (fun i => regs (cellOf alias (regOf ir i))) inst.op)
def execAll (alias : Bool) (ir : List Inst) (regs : Reg → Int) (prog : List Inst) : Reg → Int :=
  prog.foldl (execInst alias ir) regs

def StrictOuts : List Inst → Prop
  | [] => True
  | [a] => 1 ≤ a.out
  | a :: b :: r => 1 ≤ a.out ∧ a.out < b.out ∧ StrictOuts (b :: r)

/-- full well-formedness used by the property: outputs ≥ 1 strictly increasing, every input is
    index 0 or an earlier output, at least one instruction -/
structure WF (ir : List Inst) : Prop where
  wfs : WFs ir
  outs : StrictOuts ir
  closed : ∀ i ∈ liveAt ir, i = 0
  nonempty : ir ≠ []

theorem strictOuts_iff : ∀ ir : List Inst, StrictOuts ir ↔ (0 :: outs ir).Pairwise (· < ·) := by
  intro ir
  induction ir with
  | nil => simp [StrictOuts, outs]
  | cons a r ih =>
    cases r with
    | nil => simp [StrictOuts, outs]; exact Iff.rfl
    | cons b r' =>
      simp only [StrictOuts, ih, outs, List.map_cons, List.pairwise_cons, List.mem_cons, forall_eq_or_imp]
      constructor
      · rintro ⟨h1, h2, ⟨h3, h4⟩, h5, h6⟩
        exact ⟨⟨h1, h3, h4⟩, ⟨h2, fun o ho => Nat.lt_trans h2 (h5 o ho)⟩, h5, h6⟩
      · rintro ⟨⟨h1, h3, h4⟩, ⟨h2, _⟩, h5, h6⟩
        exact ⟨h1, h2, ⟨h3, h4⟩, h5, h6⟩

theorem strictOuts_split {pre : List Inst} {inst : Inst} {suf : List Inst} (h : StrictOuts (pre ++ inst :: suf)) :
    (∀ o ∈ outs pre, o < inst.out) ∧ 1 ≤ inst.out ∧ ∀ o ∈ outs suf, inst.out < o := by
  rw [strictOuts_iff] at h
  simp only [outs, List.map_append, List.map_cons, List.pairwise_cons, List.pairwise_append, List.mem_append,
    List.mem_cons] at h
  exact ⟨fun o ho => h.2.2.2 o ho _ (Or.inl rfl), h.1 _ (Or.inr (Or.inl rfl)), h.2.2.1.1⟩

theorem strictOuts_pos (ir : List Inst) (h : StrictOuts ir) : ∀ o ∈ outs ir, 1 ≤ o :=
  (List.pairwise_cons.mp ((strictOuts_iff ir).mp h)).1

theorem wfFrom_sound : ∀ (ir : List Inst) (D : List Nat) (last : Nat), (∀ d ∈ D, d ≤ last) →
    AC.PeakLive.wfFrom D last ir = true →
    WFs ir ∧ (last :: outs ir).Pairwise (· < ·) ∧ (∀ j ∈ liveAt ir, j = 0 ∨ j ∈ D) := by
  intro ir
  induction ir with
  | nil => intro D last _ _; exact ⟨trivial, List.pairwise_singleton _ _, nofun⟩
  | cons a r ih =>
    intro D last hD h
    simp only [AC.PeakLive.wfFrom, Bool.and_eq_true, decide_eq_true_eq, List.all_eq_true, Bool.or_eq_true,
      beq_iff_eq, List.contains_iff_mem] at h
    obtain ⟨⟨hlt, hin⟩, hrec⟩ := h
    obtain ⟨hw, hp, hl⟩ := ih (a.out :: D) a.out
      (fun d hd => (List.mem_cons.mp hd).elim Nat.le_of_eq (fun hd => Nat.le_trans (hD d hd) (Nat.le_of_lt hlt))) hrec
    have ho : ∀ o ∈ outs r, a.out < o := (List.pairwise_cons.mp hp).1
    have hinlt : ∀ x ∈ a.op.inputs, x < a.out := fun x hx =>
      (hin x hx).elim (fun h0 => h0 ▸ Nat.lt_of_le_of_lt (Nat.zero_le _) hlt) (fun hd => Nat.lt_of_le_of_lt (hD x hd) hlt)
    refine ⟨⟨fun hm => Nat.lt_irrefl _ (ho _ hm), fun x hx => ⟨Nat.ne_of_lt (hinlt x hx), fun hm => ?_⟩, hw⟩, ?_, ?_⟩
    · exact Nat.lt_asymm (ho _ hm) (hinlt x hx)
    · refine List.pairwise_cons.mpr ⟨fun o hm => ?_, hp⟩
      rcases List.mem_cons.mp hm with rfl | hm
      · exact hlt
      · exact Nat.lt_trans hlt (ho o hm)
    · intro j hj
      rcases mem_liveAt_cons.mp hj with hj | ⟨hj, hne⟩
      · exact hin j hj
      · exact (hl j hj).imp id (fun hd => (List.mem_cons.mp hd).resolve_left hne)

theorem wf_of_wfB (ir : List Inst) (h : AC.PeakLive.wfB ir = true) (hne : ir ≠ []) : WF ir := by
  obtain ⟨hw, hs, hl⟩ := wfFrom_sound ir [] 0 nofun h
  exact ⟨hw, (strictOuts_iff ir).mpr hs, fun i hi => (hl i hi).resolve_right List.not_mem_nil, hne⟩

def lirFold (acc : Nat) (l : List Inst) : Nat :=
  l.foldl (fun acc inst => if 0 ∈ inst.op.inputs then inst.out else acc) acc

theorem lirFold_spec : ∀ (l : List Inst) (acc : Nat),
    (lirFold acc l = acc ∧ ∀ i' ∈ l, 0 ∉ i'.op.inputs) ∨ lirFold acc l ∈ outs l := by
  intro l
  induction l with
  | nil => intro acc; exact Or.inl ⟨rfl, fun _ h => absurd h List.not_mem_nil⟩
  | cons a r ih =>
    intro acc
    rcases ih (if 0 ∈ a.op.inputs then a.out else acc) with ⟨e, hno⟩ | hm
    · by_cases h0 : 0 ∈ a.op.inputs
      · exact Or.inr ((e.trans (if_pos h0)) ▸ List.mem_cons_self)
      · exact Or.inl ⟨e.trans (if_neg h0), List.forall_mem_cons.mpr ⟨h0, hno⟩⟩
    · exact Or.inr (List.mem_cons_of_mem _ hm)

theorem lastInputRead_append (A B : List Inst) : lastInputRead (A ++ B) = lirFold (lastInputRead A) B := by
  simp [lastInputRead, lirFold, List.foldl_append]

theorem lir_gt (pre : List Inst) (inst : Inst) (suf : List Inst)
    (hs : StrictOuts (pre ++ inst :: suf)) (h0 : 0 ∈ liveAt suf) :
    inst.out < lastInputRead (pre ++ inst :: suf) := by
  obtain ⟨i', hi', hr⟩ := live_reader suf 0 h0
  rw [show pre ++ inst :: suf = (pre ++ [inst]) ++ suf by simp, lastInputRead_append]
  rcases lirFold_spec suf (lastInputRead (pre ++ [inst])) with ⟨_, hno⟩ | hm
  · exact absurd hr (hno i' hi')
  · exact (strictOuts_split hs).2.2 _ hm

theorem regOf_eq_x {ir : List Inst} {i : Nat} : regOf ir i = .x ↔ i = 0 := by
  unfold regOf
  by_cases h : i = 0
  · simp [h]
  · simp only [h, if_false, iff_false]; split <;> nofun

theorem regOf_eq_z {ir : List Inst} {i : Nat} :
    regOf ir i = .z ↔ i ≠ 0 ∧ (run ir).var i = (run ir).var (lastOut ir) ∧ lastInputRead ir ≤ i := by
  unfold regOf
  by_cases h : i = 0
  · simp [h]
  · simp only [h, if_false]; split <;> simp [*]

theorem regOf_eq_t {ir : List Inst} {i v : Nat} (h : regOf ir i = .t v) : v = ((run ir).var i).getD 0 := by
  simp only [regOf] at h
  split at h
  · cases h
  · split at h
    · cases h
    · exact (Reg.t.inj h).symm

theorem cellOf_x (alias : Bool) : cellOf alias .x = .x := by cases alias <;> rfl
theorem cellOf_z (alias : Bool) : cellOf alias .z = if alias then .x else .z := by cases alias <;> rfl
theorem cellOf_t (alias : Bool) (v : Nat) : cellOf alias (.t v) = .t v := by cases alias <;> rfl

theorem lastOut_snoc (init : List Inst) (last : Inst) : lastOut (init ++ [last]) = last.out := by
  simp [lastOut]

theorem regOf_last (init : List Inst) (last : Inst) (hs : StrictOuts (init ++ [last])) :
    regOf (init ++ [last]) last.out = .z := by
  obtain ⟨hlt, hpos, _⟩ := strictOuts_split hs
  refine regOf_eq_z.mpr ⟨Nat.ne_of_gt hpos, by rw [lastOut_snoc], ?_⟩
  show lirFold 0 (init ++ [last]) ≤ last.out
  rcases lirFold_spec (init ++ [last]) 0 with ⟨e, _⟩ | hm
  · rw [e]; exact Nat.zero_le _
  · simp only [outs, List.map_append, List.mem_append, List.map_cons, List.map_nil, List.mem_singleton] at hm
    rcases hm with hm | hm
    · exact Nat.le_of_lt (hlt _ hm)
    · exact Nat.le_of_eq hm

/-- the variable of an instruction's output differs from the variable of every other value
    that is still needed after the instruction — also when the output itself is dead -/
theorem out_distinct (pre : List Inst) (inst : Inst) (suf : List Inst)
    (hwf : WFs (pre ++ inst :: suf)) (j : Nat) (hj : j ∈ liveAt suf) (hne : j ≠ inst.out) :
    ∃ vj vo, (run (pre ++ inst :: suf)).var j = some vj ∧
      (run (pre ++ inst :: suf)).var inst.out = some vo ∧ vj ≠ vo := by
  have hwf' := WFs_suffix pre _ hwf
  have h1 := allocate_inv (run_inv suf hwf'.2.2).1 inst.out (wfs_fresh inst suf hwf').1
  obtain ⟨vo, hvo, _, _⟩ := h1.live_has inst.out List.mem_cons_self
  obtain ⟨vj, hvj, _, _⟩ := h1.live_has j (List.mem_cons_of_mem _ hj)
  have pers : ∀ i v, ((run suf).allocate inst.out).var i = some v →
      (run (pre ++ inst :: suf)).var i = some v := fun i v h =>
    run_var_mono pre (inst :: suf) i v (by rw [run_cons]; exact step_var_of_allocate _ _ i v h)
  refine ⟨vj, vo, pers j vj hvj, pers inst.out vo hvo, fun e => hne ?_⟩
  exact h1.live_inj j (List.mem_cons_of_mem _ hj) inst.out List.mem_cons_self (by rw [hvj, hvo, e])

theorem cell_distinct (alias : Bool) (pre : List Inst) (inst : Inst) (suf : List Inst)
    (hwf : WFs (pre ++ inst :: suf)) (hs : StrictOuts (pre ++ inst :: suf))
    (j : Nat) (hj : j ∈ liveAt suf) (hne : j ≠ inst.out) :
    cellOf alias (regOf (pre ++ inst :: suf) j) ≠ cellOf alias (regOf (pre ++ inst :: suf) inst.out) := by
  have hpos : 1 ≤ inst.out := (strictOuts_split hs).2.1
  obtain ⟨vj, vo, hvj, hvo, hd⟩ := out_distinct pre inst suf hwf j hj hne
  have hlir : j = 0 → inst.out < lastInputRead (pre ++ inst :: suf) := fun e => lir_gt pre inst suf hs (e ▸ hj)
  generalize pre ++ inst :: suf = ir at hvj hvo hlir ⊢
  cases hro : regOf ir inst.out with
  | x => exact absurd (regOf_eq_x.mp hro) (Nat.ne_of_gt hpos)
  | z =>
    obtain ⟨_, hoz, hol⟩ := regOf_eq_z.mp hro
    cases hrj : regOf ir j with
    | x => exact absurd (hlir (regOf_eq_x.mp hrj)) (Nat.not_lt.mpr hol)
    | z => exact absurd (Option.some.inj (hvj.symm.trans (((regOf_eq_z.mp hrj).2.1.trans hoz.symm).trans hvo))) hd
    | t v => rw [cellOf_t, cellOf_z]; cases alias <;> nofun
  | t w =>
    cases hrj : regOf ir j with
    | x => rw [cellOf_t, cellOf_x]; nofun
    | z => rw [cellOf_t, cellOf_z]; cases alias <;> nofun
    | t v =>
      rw [cellOf_t, cellOf_t, regOf_eq_t hrj, regOf_eq_t hro, hvj, hvo]
      exact fun e => hd (Reg.t.inj e)

def SimInv (alias : Bool) (ir pre suf : List Inst) (regs : Reg → Int) : Prop :=
  ∀ i ∈ liveAt suf, regs (cellOf alias (regOf ir i)) = envAfter pre i

theorem opVal_congr (e1 e2 : Nat → Int) (op : Op) (h : ∀ x ∈ op.inputs, e1 x = e2 x) :
    opVal e1 op = opVal e2 op := by
  cases op with
  | add x y => simp [opVal, h x (by simp [Op.inputs]), h y (by simp [Op.inputs])]
  | dbl x => simp [opVal, h x (by simp [Op.inputs])]
  | shl x k => simp [opVal, h x (by simp [Op.inputs])]

theorem upd_self {α} [DecidableEq α] (f : α → Int) (k : α) (v : Int) : upd f k v k = v := if_pos rfl

theorem upd_ne {α} [DecidableEq α] (f : α → Int) {k j : α} (v : Int) (h : j ≠ k) : upd f k v j = f j := if_neg h

theorem envAfter_snoc (pre : List Inst) (inst : Inst) :
    envAfter (pre ++ [inst]) = stepVal (envAfter pre) inst := by
  simp [envAfter, List.foldl_append]

theorem sim_step (alias : Bool) (pre : List Inst) (inst : Inst) (suf : List Inst) (regs : Reg → Int)
    (hwf : WFs (pre ++ inst :: suf)) (hs : StrictOuts (pre ++ inst :: suf))
    (h : SimInv alias (pre ++ inst :: suf) pre (inst :: suf) regs) :
    SimInv alias (pre ++ inst :: suf) (pre ++ [inst]) suf (execInst alias (pre ++ inst :: suf) regs inst) ∧
    execInst alias (pre ++ inst :: suf) regs inst (cellOf alias (regOf (pre ++ inst :: suf) inst.out))
      = envAfter (pre ++ [inst]) inst.out := by
  have hval : opVal (fun i => regs (cellOf alias (regOf (pre ++ inst :: suf) i))) inst.op
      = opVal (envAfter pre) inst.op :=
    opVal_congr _ _ _ (fun x hx => h x (mem_liveAt_cons.mpr (Or.inl hx)))
  have hout : execInst alias (pre ++ inst :: suf) regs inst (cellOf alias (regOf (pre ++ inst :: suf) inst.out))
      = envAfter (pre ++ [inst]) inst.out := by
    simp only [envAfter_snoc, execInst, stepVal, upd_self, hval]
  refine ⟨?_, hout⟩
  intro i hi
  by_cases hio : i = inst.out
  · subst hio; exact hout
  · have hc := cell_distinct alias pre inst suf hwf hs i hi hio
    simp only [envAfter_snoc, execInst, stepVal, upd_ne _ _ hc, upd_ne _ _ hio]
    exact h i (mem_liveAt_cons.mpr (Or.inr ⟨hi, hio⟩))

theorem sim_run (alias : Bool) (ir : List Inst) (hwf : WFs ir) (hs : StrictOuts ir) :
    ∀ (mid pre rest : List Inst) (regs : Reg → Int), ir = pre ++ mid ++ rest →
    SimInv alias ir pre (mid ++ rest) regs →
    SimInv alias ir (pre ++ mid) rest (execAll alias ir regs mid) := by
  intro mid
  induction mid with
  | nil => intro pre rest regs _ h; simpa [execAll] using h
  | cons inst mid ih =>
    intro pre rest regs hir h
    have hir' : ir = pre ++ inst :: (mid ++ rest) := by simp [hir]
    have hstep := sim_step alias pre inst (mid ++ rest) regs (hir' ▸ hwf) (hir' ▸ hs) (by rw [← hir']; exact h)
    rw [← hir'] at hstep
    have := ih (pre ++ [inst]) rest (execInst alias ir regs inst) (by simp [hir]) hstep.1
    simpa [execAll] using this

/-- **C05 (abstract-name level)**: after running the allocated program on the register machine,
    in either alias mode, the output register holds the value of the last chain element. -/
theorem alloc_correct (alias : Bool) (init : List Inst) (last : Inst)
    (hwf : WF (init ++ [last])) :
    let ir := init ++ [last]
    let regs0 : Reg → Int := upd (fun _ => 0) Reg.x 1
    execAll alias ir regs0 ir (cellOf alias .z) = envAfter ir last.out ∧
    (∀ inst ∈ ir, regOf ir inst.out ≠ .x) := by
  intro ir regs0
  have h0 : SimInv alias ir [] (init ++ [last]) regs0 := by
    intro i hi
    cases hwf.closed i hi
    simp [regOf, cellOf, regs0, upd, envAfter]
  have h1 := sim_run alias ir hwf.wfs hwf.outs init [] [last] regs0 (by simp [ir]) h0
  have hstep := sim_step alias ([] ++ init) last [] (execAll alias ir regs0 init)
    (by simpa [ir] using hwf.wfs) (by simpa [ir] using hwf.outs) (by simpa [ir] using h1)
  constructor
  · have e : execAll alias ir regs0 ir = execInst alias ir (execAll alias ir regs0 init) last := by
      simp [execAll, ir, List.foldl_append]
    rw [e, ← regOf_last init last hwf.outs]
    simpa [ir] using hstep.2
  · intro inst hinst h
    exact Nat.ne_of_gt (strictOuts_pos ir hwf.outs inst.out (List.mem_map_of_mem hinst)) (regOf_eq_x.mp h)

end P.Alloc
