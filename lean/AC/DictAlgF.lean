import AC.DictAlg
/-! The chain algorithms parametrised by the sequence-algorithm runner, so that theorems can speak
    about "every sufficiently large fuel" for the continued-fraction recursion while the driver
    uses a fuel search. -/
namespace P.DA
open P P.Bits

abbrev SeqRun := SeqAlg → List Int → Option (List Int)

def ChainAlg.findWith (sf : SeqRun) : ChainAlg → Nat → List TermP → Except Err (List Int)
  | .binaryRTL, n, _ => .ok (if n = 0 then [] else rtl n)
  | .asChain s, n, _ => match sf s [(n : Int)] with | some c => .ok c | none => .error .seq
  | .dict d s, n, o =>
    let sum := (d.run n).map fun t => (t.d, t.e)
    match sf s (dictionary (d.run n)) with
    | none => .error .seq
    | some c => finish sum (toNats c) o
  | .runs s, n, o =>
    let ts := decompose .runLength n 0 0
    let sum := ts.map fun t => (t.d, t.e)
    let lengths := (dictionary ts).map fun r => (bitLen r.toNat : Int)
    match sf s lengths with
    | none => .error .seq
    | some lc => match runsChainX lc with
      | .error _ => .error .runs
      | .ok c => finish sum (toNats c) o
  | .opt a, n, o => match a.findWith sf n o with
    | .error e => .error e
    | .ok c => .ok (P.OptX.optimize c)

def executeWith (sf : SeqRun) (a : ChainAlg) (n : Nat) (o : List TermP) : Except Err (List Int × List Op) :=
  match a.findWith sf n o with
  | .error e => .error e
  | .ok c => match program c with
    | .error _ => .error .chain
    | .ok p => if c.getLast? == some (n : Int) then .ok (c, p) else .error .target

theorem find_eq_findWith : ∀ (a : ChainAlg) (n : Nat) (o : List TermP), a.find n o = a.findWith SeqAlg.find n o
  | .binaryRTL, _, _ => rfl
  | .asChain _, _, _ => rfl
  | .dict _ _, _, _ => rfl
  | .runs _, _, _ => rfl
  | .opt a, n, o => by
    show (match a.find n o with | .error e => _ | .ok c => _) = (match a.findWith SeqAlg.find n o with | .error e => _ | .ok c => _)
    rw [find_eq_findWith a n o]

theorem execute_eq_executeWith (a : ChainAlg) (n : Nat) (o : List TermP) :
    execute a n o = executeWith SeqAlg.find a n o := by
  unfold execute executeWith
  rw [find_eq_findWith]
  rfl

theorem findWith_opt (sf : SeqRun) (a : ChainAlg) (n : Nat) (o : List TermP) :
    (ChainAlg.opt a).findWith sf n o = match a.findWith sf n o with
      | .error e => .error e
      | .ok c => .ok (P.OptX.optimize c) := rfl

/-- the runner is consulted at most once: either it is not used at all, or the result is a
    function of its answer to one query -/
theorem findWith_query (sf : SeqRun) : ∀ (a : ChainAlg) (n : Nat) (o : List TermP),
    (∀ sg, a.findWith sg n o = a.findWith sf n o) ∨
    ∃ (s : SeqAlg) (T : List Int) (K : List Int → Except Err (List Int)), ∀ sg,
      a.findWith sg n o = match sg s T with | some c => K c | none => .error .seq
  | .binaryRTL, _, _ => Or.inl fun _ => rfl
  | .asChain s, n, _ => Or.inr ⟨s, [(n : Int)], .ok, fun _ => rfl⟩
  | .dict d s, n, o => Or.inr ⟨s, dictionary (d.run n),
      fun c => finish ((d.run n).map fun t => (t.d, t.e)) (toNats c) o,
      fun sg => by simp only [ChainAlg.findWith]; cases sg s _ <;> rfl⟩
  | .runs s, n, o => Or.inr ⟨s, (dictionary (decompose .runLength n 0 0)).map fun r => (bitLen r.toNat : Int),
      fun lc => match runsChainX lc with
        | .error _ => .error .runs
        | .ok c => finish ((decompose .runLength n 0 0).map fun t => (t.d, t.e)) (toNats c) o,
      fun sg => by simp only [ChainAlg.findWith]; cases sg s _ <;> rfl⟩
  | .opt a, n, o => by
    rcases findWith_query sf a n o with h | ⟨s, T, K, h⟩
    · exact Or.inl fun sg => by rw [findWith_opt, findWith_opt, h sg]
    · refine Or.inr ⟨s, T, fun c => match K c with
        | .error e => .error e
        | .ok c => .ok (P.OptX.optimize c), fun sg => ?_⟩
      rw [findWith_opt, h sg]
      cases sg s T <;> rfl

theorem findWith_mono (sf sg : SeqRun) (h : ∀ s T c, sf s T = some c → sg s T = some c)
    (a : ChainAlg) (n : Nat) (o : List TermP) (c : List Int) (hc : a.findWith sf n o = .ok c) :
    a.findWith sg n o = .ok c := by
  rcases findWith_query sf a n o with hq | ⟨s, T, K, hq⟩
  · exact (hq sg).trans hc
  · rw [hq] at hc ⊢
    cases hs : sf s T with
    | none => rw [hs] at hc; cases hc
    | some c' => rw [hs] at hc; rw [h s T c' hs]; exact hc

end P.DA
