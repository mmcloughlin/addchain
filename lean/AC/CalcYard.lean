import AC.YardProof
/-! # C13: the shunting yard computes the conventional value — for any value domain

The refinement is carried out for an **arbitrary** value type `V` and an arbitrary
`ap : Bop → V → V → V`: the argument is purely structural (it only uses the pop rule `P.YP.stop`), so
it can be instantiated with `V = Option Int`, where division by zero is `none` and absorbing — no use
of `x / 0 = 0`.  The `Int` machine `P.YP` of `AC/YardProof.lean` (Lean's total `/`) is the instance `ap = apply`
(end of this file).

Stacks are top-first.  `popFor`, `finish`, `run` are the two-stack machine of `calc.go`
(`yard.operator`, `yard.result`, the token loop); `conv` is the conventional semantics written
structurally: split the token list at the non-`^` operators (each factor is a right-nested tower),
split the factor values at `+ -` (each term is a left fold of `* /`), left-fold the terms. -/
namespace AC.Calc
open P.YP (Bop prec rightAssoc stop isMul isAdd)

section generic
variable {V : Type} (ap : Bop → V → V → V)

/-- `yard.operator`: pop while the pop rule says so, applying the popped operator -/
def popFor (o : Bop) : List V → List Bop → Option (List V × List Bop)
  | vs, [] => some (vs, [])
  | vs, t :: ts =>
    if stop t o then some (vs, t :: ts)
    else match vs with
      | b :: a :: rest => popFor o (ap t a b :: rest) ts
      | _ => none

/-- `yard.result` -/
def finish : List V → List Bop → Option V
  | [v], [] => some v
  | _, [] => none
  | b :: a :: rest, t :: ts => finish (ap t a b :: rest) ts
  | _, _ :: _ => none

def run : List V → List Bop → List (Bop × V) → Option V
  | vs, os, [] => finish ap vs os
  | vs, os, (o, n) :: r =>
    match popFor ap o vs os with
    | none => none
    | some (vs', os') => run (n :: vs') (o :: os') r

def yard (n0 : V) (toks : List (Bop × V)) : Option V := run ap [n0] [] toks

/-- exponents of the current factor, then the remaining (non-`^` operator, base, exponents) triples -/
def group : List (Bop × V) → List V × List (Bop × V × List V)
  | [] => ([], [])
  | (o, n) :: r =>
    if o = .pow then (n :: (group r).1, (group r).2) else ([], (o, n, (group r).1) :: (group r).2)

/-- right-associative tower `n ^ (e1 ^ (e2 ^ …))` -/
def towerVal : V → List V → V
  | n, [] => n
  | n, e :: es => ap .pow n (towerVal e es)

/-- multiplicative tail of the current term, then the remaining (additive operator, factor, tail) -/
def grp2 : List (Bop × V) → List (Bop × V) × List (Bop × (V × List (Bop × V)))
  | [] => ([], [])
  | (o, v) :: r =>
    if isMul o then ((o, v) :: (grp2 r).1, (grp2 r).2) else ([], (o, (v, (grp2 r).1)) :: (grp2 r).2)

/-- left fold of `* /` -/
def termVal (v : V) (ms : List (Bop × V)) : V := ms.foldl (fun acc p => ap p.1 acc p.2) v

/-- the factors (tower values) of a token list, keyed by the non-`^` operator in front of them -/
def factors (toks : List (Bop × V)) : List (Bop × V) :=
  (group toks).2.map fun p => (p.1, towerVal ap p.2.1 p.2.2)

/-- **conventional value** of `n0 o1 n1 o2 n2 …`: `^` tightest and right-associative, then `* /`,
    then `+ -`, both left-associative -/
def conv (n0 : V) (toks : List (Bop × V)) : V :=
  let g2 := grp2 (factors ap toks)
  g2.2.foldl (fun acc p => ap p.1 acc (termVal ap p.2.1 p.2.2))
    (termVal ap (towerVal ap n0 (group toks).1) g2.1)

/-! Refinement: between two tokens the stacks have the shape `A.vs`, `A.os` — the current value, the pending bases
    of `^`, at most one pending `* /` and below it at most one pending `+ -`. -/
structure A (V : Type) where
  a : Option (V × Bop)
  m : Option (V × Bop)
  tw : List V      -- pending bases of `^`, innermost first
  cur : V

def A.WF (st : A V) : Prop :=
  (∀ p, st.a = some p → isAdd p.2 = true) ∧ (∀ p, st.m = some p → isMul p.2 = true)

def ovals (x : Option (V × Bop)) : List V := match x with | none => [] | some p => [p.1]
def oops (x : Option (V × Bop)) : List Bop := match x with | none => [] | some p => [p.2]
def oapply (x : Option (V × Bop)) (v : V) : V := match x with | none => v | some p => ap p.2 p.1 v

def A.vs (st : A V) : List V := st.cur :: (st.tw ++ (ovals st.m ++ ovals st.a))
def A.os (st : A V) : List Bop := List.replicate st.tw.length Bop.pow ++ (oops st.m ++ oops st.a)

def collapse (tw : List V) (cur : V) : V := tw.foldl (fun acc p => ap .pow p acc) cur

def convFrom (st : A V) (rest : List (Bop × V)) : V :=
  let f := collapse ap st.tw (towerVal ap st.cur (group rest).1)
  let g2 := grp2 (factors ap rest)
  g2.2.foldl (fun acc p => ap p.1 acc (termVal ap p.2.1 p.2.2))
    (oapply ap st.a (termVal ap (oapply ap st.m f) g2.1))

theorem conv_eq (n0 : V) (toks) : conv ap n0 toks = convFrom ap ⟨none, none, [], n0⟩ toks := rfl

theorem group_cons_ne {o : Bop} (hne : o ≠ .pow) (n : V) (r : List (Bop × V)) :
    group ((o, n) :: r) = ([], (o, n, (group r).1) :: (group r).2) := by
  rw [group, if_neg hne]

theorem popFor_stop {o t : Bop} (h : stop t o = true) (vs : List V) (ts : List Bop) :
    popFor ap o vs (t :: ts) = some (vs, t :: ts) := by
  unfold popFor; simp [h]

theorem popFor_pop {o t : Bop} (h : stop t o = false) (b a : V) (rest : List V) (ts : List Bop) :
    popFor ap o (b :: a :: rest) (t :: ts) = popFor ap o (ap t a b :: rest) ts := by
  rw [popFor]; simp [h]

theorem popFor_nil (o : Bop) (vs : List V) : popFor ap o vs [] = some (vs, []) := by
  unfold popFor; rfl

theorem popFor_short {o t : Bop} (h : stop t o = false) (vs : List V) (hvs : ∀ b a rest, vs ≠ b :: a :: rest)
    (ts : List Bop) : popFor ap o vs (t :: ts) = none := by
  unfold popFor
  rw [h, if_neg Bool.false_ne_true]
  split
  · exact absurd rfl (hvs _ _ _)
  · rfl

theorem finish_pop (b a : V) (rest : List V) (t : Bop) (ts : List Bop) :
    finish ap (b :: a :: rest) (t :: ts) = finish ap (ap t a b :: rest) ts := by
  rw [finish]

theorem popFor_pow (vs : List V) (os : List Bop) : popFor ap .pow vs os = some (vs, os) := by
  cases os with
  | nil => exact popFor_nil ap _ _
  | cons t ts => exact popFor_stop ap (P.YP.stop_pow t) _ _

theorem run_cons {o : Bop} {vs vs' : List V} {os os' : List Bop} (h : popFor ap o vs os = some (vs', os'))
    (n : V) (r : List (Bop × V)) : run ap vs os ((o, n) :: r) = run ap (n :: vs') (o :: os') r := by
  rw [run, h]

theorem run_cons_none {o : Bop} {vs : List V} {os : List Bop} (h : popFor ap o vs os = none)
    (n : V) (r : List (Bop × V)) : run ap vs os ((o, n) :: r) = none := by
  rw [run, h]

theorem popFor_pows (o : Bop) (ho : stop .pow o = false) :
    ∀ (tw : List V) (cur : V) (vs' : List V) (os' : List Bop),
    popFor ap o (cur :: (tw ++ vs')) (List.replicate tw.length Bop.pow ++ os') =
      popFor ap o (collapse ap tw cur :: vs') os' := by
  intro tw
  induction tw with
  | nil => intro cur vs' os'; rfl
  | cons p tw ih => intro cur vs' os'; exact (popFor_pop ap ho cur p _ _).trans (ih _ _ _)

theorem finish_pows : ∀ (tw : List V) (cur : V) (vs' : List V) (os' : List Bop),
    finish ap (cur :: (tw ++ vs')) (List.replicate tw.length Bop.pow ++ os') =
      finish ap (collapse ap tw cur :: vs') os' := by
  intro tw
  induction tw with
  | nil => intro cur vs' os'; rfl
  | cons p tw ih => intro cur vs' os'; exact (finish_pop ap cur p _ _ _).trans (ih _ _ _)

/-! A pending `(value, operator)` sits below the current value; the incoming operator either pops it,
    applying it to the value above, or stops there. -/

theorem popFor_opt (o : Bop) (x : Option (V × Bop)) (h : ∀ p, x = some p → stop p.2 o = false)
    (v : V) (vs : List V) (os : List Bop) :
    popFor ap o (v :: (ovals x ++ vs)) (oops x ++ os) = popFor ap o (oapply ap x v :: vs) os := by
  cases x with
  | none => rfl
  | some p => exact popFor_pop ap (h p rfl) v p.1 vs os

theorem popFor_last_pop (o : Bop) (x : Option (V × Bop)) (h : ∀ p, x = some p → stop p.2 o = false) (v : V) :
    popFor ap o (v :: ovals x) (oops x) = some ([oapply ap x v], []) := by
  cases x with
  | none => rfl
  | some p => exact (popFor_pop ap (h p rfl) v p.1 [] []).trans (popFor_nil ap _ _)

theorem popFor_last_stop (o : Bop) (x : Option (V × Bop)) (h : ∀ p, x = some p → stop p.2 o = true)
    (vs : List V) : popFor ap o vs (oops x) = some (vs, oops x) := by
  cases x with
  | none => exact popFor_nil ap _ _
  | some p => exact popFor_stop ap (h p rfl) _ _

theorem finish_opt (x : Option (V × Bop)) (v : V) (vs : List V) (os : List Bop) :
    finish ap (v :: (ovals x ++ vs)) (oops x ++ os) = finish ap (oapply ap x v :: vs) os := by
  cases x with
  | none => rfl
  | some p => exact finish_pop ap v p.1 vs p.2 os

theorem finish_last (x : Option (V × Bop)) (v : V) :
    finish ap (v :: ovals x) (oops x) = some (oapply ap x v) := by
  cases x <;> rfl

theorem finish_conc (st : A V) :
    finish ap st.vs st.os = some (oapply ap st.a (oapply ap st.m (collapse ap st.tw st.cur))) := by
  unfold A.vs A.os
  rw [finish_pows, finish_opt, finish_last]

theorem popFor_mul (o : Bop) (ho : isMul o = true) (st : A V) (hwf : st.WF) :
    popFor ap o st.vs st.os = some (oapply ap st.m (collapse ap st.tw st.cur) :: ovals st.a, oops st.a) := by
  unfold A.vs A.os
  rw [popFor_pows ap o (P.YP.stop_mul ho _),
    popFor_opt ap o st.m fun q hq => (P.YP.stop_mul ho _).trans (P.YP.isAdd_eq_false_of_isMul (hwf.2 q hq)),
    popFor_last_stop ap o st.a fun p hp => (P.YP.stop_mul ho _).trans (hwf.1 p hp)]

theorem popFor_add (o : Bop) (ho : isAdd o = true) (st : A V) :
    popFor ap o st.vs st.os = some ([oapply ap st.a (oapply ap st.m (collapse ap st.tw st.cur))], []) := by
  unfold A.vs A.os
  rw [popFor_pows ap o (P.YP.stop_add ho _), popFor_opt ap o st.m fun _ _ => P.YP.stop_add ho _,
    popFor_last_pop ap o st.a fun _ _ => P.YP.stop_add ho _]

/-! Reading `o n` in state `st` leads to the state on the left, whatever follows. -/

theorem convFrom_pow (a m : Option (V × Bop)) (tw : List V) (cur n : V) (r : List (Bop × V)) :
    convFrom ap ⟨a, m, cur :: tw, n⟩ r = convFrom ap ⟨a, m, tw, cur⟩ ((Bop.pow, n) :: r) := rfl

theorem convFrom_mul (o : Bop) (ho : isMul o = true) (hne : o ≠ .pow) (a m : Option (V × Bop))
    (tw : List V) (cur n : V) (r : List (Bop × V)) :
    convFrom ap ⟨a, some (oapply ap m (collapse ap tw cur), o), [], n⟩ r
      = convFrom ap ⟨a, m, tw, cur⟩ ((o, n) :: r) := by
  unfold convFrom factors
  rw [group_cons_ne hne, List.map_cons, grp2, if_pos ho]
  rfl

theorem convFrom_add (o : Bop) (hm : isMul o = false) (hne : o ≠ .pow)
    (a m : Option (V × Bop)) (tw : List V) (cur n : V) (r : List (Bop × V)) :
    convFrom ap ⟨some (oapply ap a (oapply ap m (collapse ap tw cur)), o), none, [], n⟩ r
      = convFrom ap ⟨a, m, tw, cur⟩ ((o, n) :: r) := by
  unfold convFrom factors
  rw [group_cons_ne hne, List.map_cons, grp2, if_neg (Bool.eq_false_iff.1 hm)]
  rfl

theorem run_conc : ∀ (rest : List (Bop × V)) (st : A V), st.WF →
    run ap st.vs st.os rest = some (convFrom ap st rest) := by
  intro rest
  induction rest with
  | nil => intro st _; exact finish_conc ap st
  | cons tok r ih =>
    intro st hwf
    obtain ⟨o, n⟩ := tok
    rcases st with ⟨a, m, tw, cur⟩
    by_cases hp : o = .pow
    · subst hp
      rw [run_cons ap (popFor_pow ap _ _), ← convFrom_pow]
      exact ih ⟨a, m, cur :: tw, n⟩ hwf
    · by_cases hmul : isMul o = true
      · rw [run_cons ap (popFor_mul ap o hmul _ hwf), ← convFrom_mul ap o hmul hp]
        exact ih ⟨a, some (oapply ap m (collapse ap tw cur), o), [], n⟩
          ⟨hwf.1, fun _ hq => Option.some.inj hq ▸ hmul⟩
      · have hmul := eq_false_of_ne_true hmul
        rw [run_cons ap (popFor_add ap o (P.YP.isAdd_of_not_isMul hp hmul) _), ← convFrom_add ap o hmul hp]
        exact ih ⟨some (oapply ap a (oapply ap m (collapse ap tw cur)), o), none, [], n⟩
          ⟨fun _ hq => Option.some.inj hq ▸ P.YP.isAdd_of_not_isMul hp hmul, fun _ hq => nomatch hq⟩

/-- the shunting yard computes the conventional value, for every value domain and every
    interpretation `ap` of the operators -/
theorem yard_eq_conv (n0 : V) (toks : List (Bop × V)) : yard ap n0 toks = some (conv ap n0 toks) := by
  rw [conv_eq]
  exact run_conc ap toks ⟨none, none, [], n0⟩ ⟨(fun p h => nomatch h), (fun p h => nomatch h)⟩

end generic
end AC.Calc

namespace P.YP

theorem popFor_eq (o : Bop) (vs : List Int) (os : List Bop) :
    popFor o vs os = AC.Calc.popFor apply o vs os := by
  fun_induction popFor o vs os <;> simp [AC.Calc.popFor, *]

theorem finish_eq (vs : List Int) (os : List Bop) : finish vs os = AC.Calc.finish apply vs os := by
  fun_induction finish vs os <;> simp [AC.Calc.finish, *]

theorem run_eq (vs : List Int) (os : List Bop) (toks : List (Bop × Int)) :
    run vs os toks = AC.Calc.run apply vs os toks := by
  fun_induction run vs os toks <;> simp [AC.Calc.run, ← popFor_eq, ← finish_eq, *]

theorem towerVal_eq (ps : List Int) : ∀ n, towerVal (n :: ps) = AC.Calc.towerVal apply n ps := by
  induction ps with
  | nil => intro n; rfl
  | cons e es ih => intro n; rw [towerVal_cons, ih]; rfl

theorem group_eq (r : List (Bop × Int)) :
    group r = ((AC.Calc.group r).1, (AC.Calc.group r).2.map fun p => (p.1, p.2.1 :: p.2.2)) := by
  induction r with
  | nil => rfl
  | cons tk r ih =>
    rw [group_cons, AC.Calc.group, ih]
    split <;> rfl

theorem grp2_eq (r : List (Bop × Int)) : grp2 r = AC.Calc.grp2 r := by
  induction r with
  | nil => rfl
  | cons tk r ih => rw [grp2_cons, AC.Calc.grp2, ih]

theorem ovals_eq (x : Option (Int × Bop)) : ovals x = AC.Calc.ovals x := by cases x <;> rfl
theorem oops_eq (x : Option (Int × Bop)) : oops x = AC.Calc.oops x := by cases x <;> rfl
theorem oapply_eq (x : Option (Int × Bop)) (v : Int) : oapply x v = AC.Calc.oapply apply x v := by
  cases x <;> rfl

theorem convFrom_eq (st : A) (rest : List (Bop × Int)) :
    convFrom st rest = AC.Calc.convFrom apply ⟨st.a, st.m, st.tw, st.cur⟩ rest := by
  unfold convFrom AC.Calc.convFrom AC.Calc.factors
  simp only [group_eq, List.map_map, Function.comp_def, grp2_eq, towerVal_eq, oapply_eq]
  rfl

theorem run_conc : ∀ (rest : List (Bop × Int)) (st : A), st.WF →
    run st.vs st.os rest = some (convFrom st rest) := by
  intro rest st hwf
  unfold A.vs A.os
  rw [run_eq, convFrom_eq, ovals_eq, ovals_eq, oops_eq, oops_eq]
  exact AC.Calc.run_conc apply rest ⟨st.a, st.m, st.tw, st.cur⟩ hwf

/-- the `Int` prototype: the yard with Lean's total `/` computes `P.YP.conv`.  (C13 itself is stated
    for the model, where a zero divisor is an outcome: `AC.Calc.yard_eq_conv` at `applyL`, `convO`.) -/
theorem yard_eq_conv (n0 : Int) (toks : List (Bop × Int)) : yard n0 toks = some (conv n0 toks) := by
  rw [conv_eq]
  exact run_conc toks ⟨none, none, [], n0⟩ ⟨(fun p h => nomatch h), (fun p h => nomatch h)⟩

end P.YP
