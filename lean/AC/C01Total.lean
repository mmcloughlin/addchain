import AC.DictAlgF
import AC.OptProof
import AC.PrimBridge
import AC.DictBounds
import AC.SeqGood
import AC.Assemble
import AC.Props.C09
/-! C01 totality: the dictionary and runs chain algorithms report no error (other than an
    inadmissible sort oracle) and return a chain ending at the target. -/
namespace P.DA
open P P.Bits

theorem ofNat_toNats (c : List Int) (h : ∀ x ∈ c, 0 ≤ x) : (toNats c).map Int.ofNat = c := by
  unfold toNats
  rw [List.map_map]
  conv => rhs; rw [← List.map_id c]
  apply List.map_congr_left
  intro x hx
  have := h x hx
  simp [Int.toNat_of_nonneg this]

theorem mem_toNats (c : List Int) (h : ∀ x ∈ c, 0 ≤ x) (k : Nat) : k ∈ toNats c ↔ (k : Int) ∈ c := by
  unfold toNats
  constructor
  · intro hk
    obtain ⟨x, hx, rfl⟩ := List.mem_map.1 hk
    have := h x hx
    rw [Int.toNat_of_nonneg this]; exact hx
  · intro hk
    exact List.mem_map.2 ⟨(k : Int), hk, by simp⟩

/-- what an addition chain says about its list of naturals -/
theorem toNats_chain (c : Chain) (hc : IsChain c) :
    1 ∈ toNats c ∧ (∀ x ∈ toNats c, 1 ≤ x) ∧
    ∀ x ∈ toNats c, x = 1 ∨ ∃ a ∈ toNats c, ∃ b ∈ toNats c, a + b = x := by
  have hpos := isChain_mem_pos c hc
  have hmem := mem_toNats c fun x hx => Int.le_trans (by decide) (hpos x hx)
  refine ⟨(hmem 1).2 (isChain_one_mem c hc), fun x hx => Int.ofNat_le.1 (hpos _ ((hmem x).1 hx)), fun x hx => ?_⟩
  rcases isChain_closed c hc _ ((hmem x).1 hx) with h | ⟨a, ha, b, hb, hab⟩
  · exact Or.inl (Int.ofNat_inj.1 h)
  · obtain ⟨a, rfl⟩ := Int.eq_ofNat_of_zero_le (Int.le_trans (by decide) (hpos a ha))
    obtain ⟨b, rfl⟩ := Int.eq_ofNat_of_zero_le (Int.le_trans (by decide) (hpos b hb))
    exact Or.inr ⟨a, (hmem a).2 ha, b, (hmem b).2 hb, Int.ofNat_inj.1 ((Int.natCast_add a b).trans hab)⟩

theorem assembleN (l : List Nat) (n : Nat) (h1 : 1 ∈ l) (hpos : ∀ x ∈ l, 1 ≤ x)
    (hcl : ∀ x ∈ l, x = 1 ∨ ∃ a ∈ l, ∃ b ∈ l, a + b = x) (hn : n ∈ l) (hle : ∀ x ∈ l, x ≤ n) :
    IsChain (sortUniq (l.map Int.ofNat)) ∧ (sortUniq (l.map Int.ofNat)).getLast? = some (n : Int) := by
  refine ⟨isChain_sortUniq _ (List.mem_map_of_mem h1) ?_ ?_,
    last_sortUniq _ n (List.mem_map_of_mem hn) ?_⟩
  · exact List.forall_mem_map.2 fun k hk => Int.ofNat_le.2 (hpos k hk)
  · refine List.forall_mem_map.2 fun k hk => (hcl k hk).imp (congrArg Int.ofNat) fun ⟨a, ha, b, hb, hab⟩ => ?_
    exact ⟨(a : Int), List.mem_map_of_mem ha, (b : Int), List.mem_map_of_mem hb, hab ▸ (Int.natCast_add a b).symm⟩
  · exact List.forall_mem_map.2 fun k hk => Int.ofNat_le.2 (hle k hk)

theorem valueP_perm {a b : List TermP} (h : a.Perm b) : valueP a = valueP b := by
  unfold valueP; exact (h.map _).sum_nat

theorem valueP_reverse (a : List TermP) : valueP a.reverse = valueP a :=
  valueP_perm (List.reverse_perm a)

theorem valueP_eq_value (a : List TermP) : valueP a = P.DictSum.value a := rfl

theorem valueP_pos_ne_nil (a : List TermP) (h : 1 ≤ valueP a) : a ≠ [] := by
  intro e; rw [e] at h; simp [valueP] at h

/-- a list sorted by non-decreasing exponent, reversed, is `Desc` from its head exponent -/
theorem desc_of_sorted : ∀ (l : List TermP), (l.zip l.tail).all (fun p => decide (p.1.2 ≤ p.2.2)) = true →
    ∀ (d e : Nat) (r : List TermP), l.reverse = (d, e) :: r → P.DictSum.Desc e r := by
  intro l hs
  -- adjacent order gives pairwise order, which survives the reversal
  have hp : l.Pairwise (fun a b => a.2 ≤ b.2) := by
    induction l with
    | nil => exact List.Pairwise.nil
    | cons a t ih =>
      cases t with
      | nil => exact List.pairwise_singleton _ _
      | cons b t' =>
        have hs' : decide (a.2 ≤ b.2) = true ∧
            ((b :: t').zip (b :: t').tail).all (fun p => decide (p.1.2 ≤ p.2.2)) = true :=
          Bool.and_eq_true_iff.1 hs
        have iht := ih hs'.2
        have hab : a.2 ≤ b.2 := of_decide_eq_true hs'.1
        refine List.Pairwise.cons (fun x hx => ?_) iht
        rcases List.mem_cons.1 hx with rfl | hx
        · exact hab
        · exact Nat.le_trans hab ((List.pairwise_cons.1 iht).1 x hx)
  intro d e r hr
  have hrp : ((d, e) :: r).Pairwise (fun a b => b.2 ≤ a.2) := by
    rw [← hr, List.pairwise_reverse]
    exact hp
  clear hr hp hs
  induction r generalizing d e with
  | nil => trivial
  | cons t r' ih =>
    obtain ⟨d', e'⟩ := t
    rw [List.pairwise_cons] at hrp
    exact ⟨hrp.1 (d', e') (by simp), ih d' e' hrp.2⟩

/-- `dictsumchain` over a sum sorted by exponent whose dictionary entries lie in a sum-closed list
    `pruned` bounded by the sum's value: both together, sorted and de-duplicated, are an addition
    chain ending at that value -/
theorem dictSumChain_ok (pruned : List Nat) (o : List TermP) (n : Nat) (hn : 1 ≤ n)
    (hp1 : 1 ∈ pruned) (hppos : ∀ x ∈ pruned, 1 ≤ x)
    (hpcl : ∀ x ∈ pruned, x = 1 ∨ ∃ a ∈ pruned, ∃ b ∈ pruned, a + b = x) (hple : ∀ x ∈ pruned, x ≤ n)
    (hsorted : (o.zip o.tail).all (fun p => decide (p.1.2 ≤ p.2.2)) = true)
    (hmem : ∀ t ∈ o, t.1 ∈ pruned) (hval : valueP o = n) :
    IsChain (sortUniq ((pruned ++ dictSumChain o).map Int.ofNat)) ∧
      (sortUniq ((pruned ++ dictSumChain o).map Int.ofNat)).getLast? = some (n : Int) := by
  have hone : o.reverse ≠ [] := fun e =>
    valueP_pos_ne_nil o (hval ▸ hn) (List.reverse_eq_nil_iff.1 e)
  obtain ⟨⟨d, e⟩, r, hrev⟩ := List.exists_cons_of_ne_nil hone
  have hmo : ∀ t ∈ (d, e) :: r, t.1 ∈ pruned := fun t ht => hmem t (List.mem_reverse.1 (hrev ▸ ht))
  have hdm : d ∈ pruned := hmo (d, e) List.mem_cons_self
  have hdesc := desc_of_sorted o hsorted d e r hrev
  have hdc : dictSumChain o = P.DictSum.go d e r := by
    unfold dictSumChain P.DictSum.dictsumchain; rw [hrev]
  have glast : P.DictSum.lastOr (P.DictSum.go d e r) d = n := by
    rw [(P.DictSum.go_spec r d e hdesc).2, ← hval, ← valueP_reverse, hrev]
    simp [valueP, P.DictSum.value]
  have gb := P.DictSum.go_bounds r d e
  rw [hdc]
  apply assembleN _ n (List.mem_append_left _ hp1)
  · intro x hx
    rcases List.mem_append.1 hx with h | h
    · exact hppos x h
    · exact Nat.le_trans (hppos d hdm) (gb x h).1
  · exact P.DictSum.go_closed pruned r d e hdesc hpcl hdm fun t ht => hmo t (List.mem_cons_of_mem _ ht)
  · rcases List.mem_cons.1 (P.DictSum.lastOr_mem_cons (P.DictSum.go d e r) d) with h | h
    · exact List.mem_append_left _ (by rw [← glast, h]; exact hdm)
    · exact List.mem_append_right _ (by rw [← glast]; exact h)
  · intro x hx
    rcases List.mem_append.1 hx with h | h
    · exact hple x h
    · rw [← glast]; exact (gb x h).2

/-- the common tail of the dictionary and runs algorithms: for every oracle it either succeeds with
    a valid chain ending at `n`, or reports that the oracle is not an admissible sort result -/
theorem finish_ok (sum : List TermP) (c : Chain) (n : Nat) (o : List TermP)
    (hne : sum ≠ []) (hval : valueP sum = n) (hn : 1 ≤ n)
    (hc : IsChain c) (hcle : ∀ x ∈ c, x ≤ (n : Int)) (hmem : ∀ t ∈ sum, ((t.1 : Nat) : Int) ∈ c) :
    (∃ r, finish sum (toNats c) o = .ok r ∧ IsChain r ∧ r.getLast? = some (n : Int)) ∨
      finish sum (toNats c) o = .error .oracle := by
  have hc0 : ∀ x ∈ c, 0 ≤ x := fun x hx => Int.le_trans (by decide) (isChain_mem_pos c hc x hx)
  have hmemN := mem_toNats c hc0
  obtain ⟨hN1, hNpos, hNcl⟩ := toNats_chain c hc
  have hNle : ∀ x ∈ toNats c, x ≤ n := fun x hx => Int.ofNat_le.1 (hcle _ ((hmemN x).1 hx))
  have hmemS : ∀ t ∈ sum, t.1 ∈ toNats c := fun t ht => (hmemN t.1).2 (hmem t ht)
  unfold finish
  by_cases h1 : sum.length = 1
  · -- a single term: no reduction
    simp only [h1, beq_self_eq_true, if_true]
    obtain ⟨t, rfl⟩ := List.length_eq_one_iff.1 h1
    exact Or.inl ⟨_, rfl, dictSumChain_ok (toNats c) [t] n hn hN1 hNpos hNcl hNle rfl hmemS hval⟩
  · -- at least two terms: reduce
    have hlen2 : 2 ≤ sum.length := by
      have := List.length_pos_iff.2 hne
      omega
    simp only [beq_iff_eq, h1, if_false]
    obtain ⟨pre, pruned, hpp, hpv, hpt, hp1, hpsub, hpcl⟩ :=
      primitivePre_ok sum (toNats c) (by rw [ofNat_toNats c hc0]; exact hc) hlen2 hmemS
    rw [hpp]
    dsimp only
    by_cases hadm : admissible pre o = true
    · simp only [hadm, if_true]
      simp only [admissible, Bool.and_eq_true] at hadm
      have hperm : o.Perm pre := List.isPerm_iff.1 hadm.1
      exact Or.inl ⟨_, rfl, dictSumChain_ok pruned o n hn hp1 (fun x hx => hNpos x (hpsub x hx)) hpcl
        (fun x hx => hNle x (hpsub x hx)) hadm.2 (fun t ht => hpt t (hperm.mem_iff.1 ht))
        (by rw [valueP_perm hperm, hpv, hval])⟩
    · exact Or.inr (by simp only [hadm, Bool.false_eq_true, if_false])

theorem decomp_facts (d : Decomp) (hd : d.wf = true) (n : Nat) (hn : 1 ≤ n) :
    value (d.run n) = n ∧ (d.run n).Pairwise Below ∧ (∀ t ∈ d.run n, 0 < t.d) ∧ d.run n ≠ [] := by
  cases d with
  | fixed k =>
    have hk : 1 ≤ k := by simpa [Decomp.wf] using hd
    obtain ⟨a, b, c⟩ := AC.Props.C09.C09_fixed n k 0 hk
    exact ⟨a, b, fun t ht => (c t ht).1, nonempty_of_value _ n hn a⟩
  | sliding k =>
    have hk : 1 ≤ k := by simpa [Decomp.wf] using hd
    obtain ⟨a, b, c⟩ := AC.Props.C09.C09_sliding n k 0 hk
    exact ⟨a, b, fun t ht => (c t ht).1, nonempty_of_value _ n hn a⟩
  | runLength t =>
    obtain ⟨a, b, c⟩ := AC.Props.C09.C09_runLength n 0 t
    refine ⟨a, b, ?_, nonempty_of_value _ n hn a⟩
    intro x hx
    obtain ⟨l, hl, hxd, _⟩ := c x hx
    show 0 < x.d
    rw [hxd]
    exact Nat.sub_pos_of_lt (Nat.one_lt_two_pow (Nat.ne_of_gt hl))
  | hybrid k t =>
    have hk : 1 ≤ k := by simpa [Decomp.wf] using hd
    obtain ⟨a, b, c⟩ := AC.Props.C09.C09_hybrid n k t hk
    exact ⟨a, b, fun x hx => (c x hx).1, nonempty_of_value _ n hn a⟩

theorem valueP_map (ts : List Term) : valueP (ts.map fun t => (t.d, t.e)) = value ts := by
  unfold valueP value; rw [List.map_map]; rfl

theorem term_le_value : ∀ (ts : List Term) (t : Term), t ∈ ts → t.d ≤ value ts := by
  intro ts
  induction ts with
  | nil => intro t h; cases h
  | cons a r ih =>
    intro t ht
    rw [value_cons]
    rcases List.mem_cons.1 ht with rfl | h
    · exact Nat.le_trans (Nat.le_mul_of_pos_right _ (Nat.pow_pos (by decide))) (Nat.le_add_right _ _)
    · exact Nat.le_trans (ih t h) (Nat.le_add_left _ _)

theorem exists_max : ∀ (T : List Int), T ≠ [] → ∃ M ∈ T, ∀ x ∈ T, x ≤ M
  | [a], _ => ⟨a, List.mem_singleton_self a, fun _ hx => Int.le_of_eq (List.mem_singleton.1 hx)⟩
  | a :: b :: r, _ => by
    obtain ⟨M, hM, hle⟩ := exists_max (b :: r) (List.cons_ne_nil _ _)
    rcases Int.le_total a M with h | h
    · exact ⟨M, List.mem_cons_of_mem _ hM, List.forall_mem_cons.2 ⟨h, hle⟩⟩
    · exact ⟨a, List.mem_cons_self, List.forall_mem_cons.2 ⟨Int.le_refl a, fun x hx => Int.le_trans (hle x hx) h⟩⟩

theorem all_one_singleton (T : List Int) (hne : T ≠ []) (hasc : T.Pairwise (· < ·))
    (h1 : ∀ x ∈ T, x = 1) : T = [1] := by
  match T, hne with
  | [a], _ => rw [h1 a (by simp)]
  | a :: b :: r, _ =>
    exfalso
    have := (List.pairwise_cons.1 hasc).1 b (by simp)
    have ha := h1 a (by simp)
    have hb := h1 b (by simp)
    omega

/-- every well-formed sequence algorithm on a non-empty list of positive distinct-sorted targets -/
theorem seq_good (s : SeqAlg) (hs : SeqAlg.wf s = true) (T : List Int) (hne : T ≠ [])
    (hpos : ∀ x ∈ T, 1 ≤ x) (hasc : T.Pairwise (· < ·)) (M : Int) (hM : ∀ x ∈ T, x ≤ M) (hMT : M ∈ T) :
    ∃ F c, (∀ f, F ≤ f → s.findF f T = some c) ∧ SeqAlg.Good T M c := by
  cases s with
  | heuristic h =>
    have ht : h.isTotal = true := by simpa [SeqAlg.wf] using hs
    have h2 : 2 ≤ M ∨ T = [1] := by
      by_cases hm : 2 ≤ M
      · exact Or.inl hm
      · right
        apply all_one_singleton T hne hasc
        intro x hx
        have := hpos x hx; have := hM x hx; omega
    obtain ⟨c, hc, r⟩ := SeqAlg.good_heuristic h ht T hpos M hM hMT h2
    exact ⟨0, c, fun f _ => hc f, r⟩
  | contfrac st => exact SeqAlg.good_contfrac st T hne hpos M hM hMT

/-- **dictionary algorithms: totality** -/
theorem dict_total (d : Decomp) (s : SeqAlg) (hd : d.wf = true) (hs : SeqAlg.wf s = true) (n : Nat) (hn : 1 ≤ n) :
    ∃ F, ∀ f, F ≤ f → ∀ o,
      (∃ r, (ChainAlg.dict d s).findWith (SeqAlg.findF f) n o = .ok r ∧ IsChain r ∧ r.getLast? = some (n : Int)) ∨
      (ChainAlg.dict d s).findWith (SeqAlg.findF f) n o = .error .oracle := by
  obtain ⟨hv, _, hdpos, hne⟩ := decomp_facts d hd n hn
  obtain ⟨hdasc, hdmem⟩ := AC.Props.C09.C09_dictionary (d.run n)
  have hTne : dictionary (d.run n) ≠ [] := by
    obtain ⟨t, ht⟩ := List.exists_mem_of_ne_nil _ hne
    intro e
    have := (hdmem (t.d : Int)).2 ⟨t, ht, rfl⟩
    rw [e] at this; cases this
  have hTpos : ∀ x ∈ dictionary (d.run n), 1 ≤ x := by
    intro x hx
    obtain ⟨t, ht, rfl⟩ := (hdmem x).1 hx
    exact Int.ofNat_le.2 (hdpos t ht)
  obtain ⟨M, hMT, hM⟩ := exists_max _ hTne
  have hMn : M ≤ (n : Int) := by
    obtain ⟨t, ht, rfl⟩ := (hdmem M).1 hMT
    exact Int.ofNat_le.2 (hv ▸ term_le_value _ t ht)
  obtain ⟨F, c, hfind, g⟩ := seq_good s hs _ hTne hTpos hdasc M hM hMT
  refine ⟨F, fun f hf o => ?_⟩
  have hfw : (ChainAlg.dict d s).findWith (SeqAlg.findF f) n o
      = finish ((d.run n).map fun t => (t.d, t.e)) (toNats c) o := by
    unfold ChainAlg.findWith
    simp only [hfind f hf]
  rw [hfw]
  apply finish_ok
  · intro e; exact hne (List.map_eq_nil_iff.1 e)
  · rw [valueP_map, hv]
  · exact hn
  · exact g.chain
  · exact fun x hx => Int.le_trans (g.le x hx) hMn
  · intro t ht
    obtain ⟨t', ht', rfl⟩ := List.mem_map.1 ht
    exact g.sup _ ((hdmem _).2 ⟨t', ht', rfl⟩)

theorem bitLen_ones (l : Nat) (hl : 1 ≤ l) : bitLen (2 ^ l - 1) = l := by
  obtain ⟨m, rfl⟩ := Nat.exists_eq_add_one_of_ne_zero (Nat.ne_of_gt hl)
  have hne : 2 ^ (m + 1) - 1 ≠ 0 := Nat.sub_ne_zero_of_lt (Nat.one_lt_two_pow (Nat.succ_ne_zero m))
  rw [bitLen, if_neg hne, (Nat.log2_eq_iff (k := m) hne).2
    ⟨Nat.le_sub_one_of_lt (Nat.pow_lt_pow_right (by decide) (Nat.lt_succ_self m)),
      Nat.sub_lt (Nat.pow_pos (by decide)) (by decide)⟩]

theorem bitLen_mono {a b : Nat} (h : a ≤ b) : bitLen a ≤ bitLen b := by
  unfold bitLen
  by_cases ha : a = 0
  · rw [if_pos ha]; exact Nat.zero_le _
  · have hb : b ≠ 0 := by omega
    rw [if_neg ha, if_neg hb]
    exact Nat.succ_le_succ ((Nat.le_log2 hb).2 (Nat.le_trans (Nat.log2_self_le ha) h))

theorem cast_ones (l : Nat) : ((2 ^ l - 1 : Nat) : Int) = onesI l := by
  unfold onesI
  rw [Int.ofNat_sub (Nat.one_le_two_pow), Int.natCast_pow]
  rfl

/-- the lengths handed to the sequence algorithm for a sum of runs `2^l − 1`: exactly the `l`, in
    strictly ascending order -/
theorem runLengths (ts : List Term) (hshape : ∀ t ∈ ts, ∃ l, 1 ≤ l ∧ t.d = 2 ^ l - 1) :
    (∀ x : Int, (x ∈ (dictionary ts).map fun r => (bitLen r.toNat : Int)) ↔
      ∃ t ∈ ts, ∃ l : Nat, 1 ≤ l ∧ t.d = 2 ^ l - 1 ∧ x = (l : Int)) ∧
    ((dictionary ts).map fun r => (bitLen r.toNat : Int)).Pairwise (· < ·) := by
  obtain ⟨hdasc, hdmem⟩ := AC.Props.C09.C09_dictionary ts
  constructor
  · intro x
    rw [List.mem_map]
    constructor
    · rintro ⟨r, hr, rfl⟩
      obtain ⟨t, ht, rfl⟩ := (hdmem r).1 hr
      obtain ⟨l, hl, hd⟩ := hshape t ht
      exact ⟨t, ht, l, hl, hd, by rw [Int.toNat_natCast, hd, bitLen_ones l hl]⟩
    · rintro ⟨t, ht, l, hl, hd, rfl⟩
      exact ⟨(t.d : Int), (hdmem _).2 ⟨t, ht, rfl⟩, by rw [Int.toNat_natCast, hd, bitLen_ones l hl]⟩
  · rw [List.pairwise_map]
    refine hdasc.imp_of_mem fun {a b} ha hb hab => ?_
    obtain ⟨ta, hta, rfl⟩ := (hdmem a).1 ha
    obtain ⟨tb, htb, rfl⟩ := (hdmem b).1 hb
    have hlt : ta.d < tb.d := Int.ofNat_lt.1 hab
    have hle := bitLen_mono (Nat.le_of_lt hlt)
    obtain ⟨la, hla, hda⟩ := hshape ta hta
    obtain ⟨lb, hlb, hdb⟩ := hshape tb htb
    simp only [Int.toNat_natCast]
    rw [hda, bitLen_ones la hla, hdb, bitLen_ones lb hlb] at hle ⊢
    -- equal lengths would be equal runs
    have : la ≠ lb := fun e => by rw [hda, hdb, e] at hlt; exact Nat.lt_irrefl _ hlt
    exact Int.ofNat_lt.2 (Nat.lt_of_le_of_ne hle this)

/-- **runs algorithm: totality** (targets whose run lengths fit a machine word) -/
theorem runs_total (s : SeqAlg) (hs : SeqAlg.wf s = true) (n : Nat) (hn : 1 ≤ n) (hsize : Nat.log2 n + 1 < 2 ^ 64) :
    ∃ F, ∀ f, F ≤ f → ∀ o,
      (∃ r, (ChainAlg.runs s).findWith (SeqAlg.findF f) n o = .ok r ∧ IsChain r ∧ r.getLast? = some (n : Int)) ∨
      (ChainAlg.runs s).findWith (SeqAlg.findF f) n o = .error .oracle := by
  obtain ⟨hv, _, hshape'⟩ := AC.Props.C09.C09_runLength n 0 0
  generalize hts : decompose Method.runLength n 0 0 = ts at hv hshape'
  have hshape : ∀ t ∈ ts, ∃ l, 1 ≤ l ∧ t.d = 2 ^ l - 1 := fun t ht =>
    (hshape' t ht).imp fun l h => ⟨h.1, h.2.1⟩
  have hne : ts ≠ [] := nonempty_of_value _ n hn hv
  obtain ⟨hLmem, hLasc⟩ := runLengths ts hshape
  generalize hL : ((dictionary ts).map fun r => (bitLen r.toNat : Int)) = L at hLmem hLasc
  have hLne : L ≠ [] := by
    obtain ⟨t, ht⟩ := List.exists_mem_of_ne_nil _ hne
    obtain ⟨l, hl, hd⟩ := hshape t ht
    exact List.ne_nil_of_mem ((hLmem (l : Int)).2 ⟨t, ht, l, hl, hd, rfl⟩)
  have hLpos : ∀ x ∈ L, 1 ≤ x := by
    intro x hx
    obtain ⟨_, _, l, hl, _, rfl⟩ := (hLmem x).1 hx
    exact Int.ofNat_le.2 hl
  obtain ⟨M, hMT, hM⟩ := exists_max L hLne
  obtain ⟨tM, htM, lM, hlM, hdM, rfl⟩ := (hLmem M).1 hMT
  -- the longest run is a term of the sum, hence at most `n`, and its length at most the bit length of `n`
  have hdMn : 2 ^ lM - 1 ≤ n := by rw [← hdM, ← hv]; exact term_le_value ts tM htM
  have hlM64 : lM < 2 ^ 64 := by
    have := bitLen_mono hdMn
    rw [bitLen_ones lM hlM, bitLen, if_neg (Nat.ne_of_gt hn)] at this
    exact Nat.lt_of_le_of_lt this hsize
  obtain ⟨F, lc, hfind, g⟩ := seq_good s hs L hLne hLpos hLasc lM hM hMT
  have hlcpos := isChain_mem_pos lc g.chain
  have hsmall : ∀ l ∈ lc, l < 2 ^ 64 := fun l hl =>
    Int.lt_of_le_of_lt (g.le l hl) (by exact_mod_cast hlM64)
  obtain ⟨c, hrc, hc, hones⟩ := runsChainX_ok lc g.chain hsmall
  have hbound := runsChainX_bound lc g.chain hsmall c hrc lM fun l hl =>
    Int.toNat_le.2 (g.le l hl)
  have honesM : onesI lM ≤ (n : Int) := by rw [← cast_ones]; exact Int.ofNat_le.2 hdMn
  refine ⟨F, fun f hf o => ?_⟩
  have hfw : (ChainAlg.runs s).findWith (SeqAlg.findF f) n o
      = finish (ts.map fun t => (t.d, t.e)) (toNats c) o := by
    unfold ChainAlg.findWith
    simp only [hts, hL, hfind f hf, hrc]
  rw [hfw]
  apply finish_ok
  · intro e; exact hne (List.map_eq_nil_iff.1 e)
  · rw [valueP_map, hv]
  · exact hn
  · exact hc
  · exact fun x hx => Int.le_trans (hbound x hx).2 honesM
  · intro t ht
    obtain ⟨t', ht', rfl⟩ := List.mem_map.1 ht
    obtain ⟨l, hl, hd⟩ := hshape t' ht'
    have := hones (l : Int) (g.sup _ ((hLmem _).2 ⟨t', ht', l, hl, hd, rfl⟩))
    rw [Int.toNat_natCast] at this
    show ((t'.d : Nat) : Int) ∈ c
    rw [hd, cast_ones]; exact this

/-- **every well-formed chain algorithm**: for all sufficiently large fuel and every oracle,
    `FindChain` returns a valid chain ending at the target, or reports an inadmissible oracle -/
theorem findWith_total : ∀ (a : ChainAlg), a.wf = true → ∀ (n : Nat), 1 ≤ n → Nat.log2 n + 1 < 2 ^ 64 →
    ∃ F, ∀ f, F ≤ f → ∀ o,
      (∃ r, a.findWith (SeqAlg.findF f) n o = .ok r ∧ IsChain r ∧ r.getLast? = some (n : Int)) ∨
      a.findWith (SeqAlg.findF f) n o = .error .oracle
  | .binaryRTL, _, n, hn, _ => by
    refine ⟨0, fun f _ o => Or.inl ⟨rtl n, ?_, (binary_ok n hn).1, (binary_ok n hn).2⟩⟩
    show Except.ok (if n = 0 then [] else rtl n) = _
    rw [if_neg (Nat.ne_of_gt hn)]
  | .asChain s, hw, n, hn, _ => by
    have hs : SeqAlg.wf s = true := by simpa [ChainAlg.wf] using hw
    obtain ⟨F, c, hfind, g⟩ := seq_good s hs [(n : Int)] (List.cons_ne_nil _ _)
      (fun x hx => List.mem_singleton.1 hx ▸ Int.ofNat_le.2 hn) (List.pairwise_singleton _ _) (n : Int)
      (fun x hx => Int.le_of_eq (List.mem_singleton.1 hx)) (List.mem_singleton_self _)
    refine ⟨F, fun f hf o => Or.inl ⟨c, ?_, g.chain, last_of_bound c n g.asc (g.sup _ (List.mem_singleton_self _)) g.le⟩⟩
    unfold ChainAlg.findWith; rw [hfind f hf]
  | .dict d s, hw, n, hn, _ => by
    have h2 : d.wf = true ∧ SeqAlg.wf s = true := by simpa [ChainAlg.wf] using hw
    exact dict_total d s h2.1 h2.2 n hn
  | .runs s, hw, n, hn, hsz => by
    have hs : SeqAlg.wf s = true := by simpa [ChainAlg.wf] using hw
    exact runs_total s hs n hn hsz
  | .opt a, hw, n, hn, hsz => by
    have ha : a.wf = true := by simpa [ChainAlg.wf] using hw
    obtain ⟨F, hF⟩ := findWith_total a ha n hn hsz
    refine ⟨F, fun f hf o => ?_⟩
    rw [findWith_opt]
    rcases hF f hf o with ⟨r, hr, hc, hl⟩ | he
    · obtain ⟨h1, _, _, h4⟩ := P.OptX.optimize_ok r hc
      exact Or.inl ⟨P.OptX.optimize r, by rw [hr], h1, by rw [h4, hl]⟩
    · exact Or.inr (by rw [he])

/-- `Execute` on top of it -/
theorem executeWith_total (a : ChainAlg) (hw : a.wf = true) (n : Nat) (hn : 1 ≤ n) (hsz : Nat.log2 n + 1 < 2 ^ 64) :
    ∃ F, ∀ f, F ≤ f → ∀ o,
      (∃ c p, executeWith (SeqAlg.findF f) a n o = .ok (c, p) ∧ IsChain c ∧ c.getLast? = some (n : Int) ∧
        p.length + 1 = c.length ∧ evaluate p = c) ∨
      executeWith (SeqAlg.findF f) a n o = .error .oracle := by
  obtain ⟨F, hF⟩ := findWith_total a hw n hn hsz
  refine ⟨F, fun f hf o => ?_⟩
  rcases hF f hf o with ⟨r, hr, hc, hl⟩ | he
  · left
    obtain ⟨p, hp⟩ := (validate_iff r).2 hc
    have he := program_evaluate r p hp
    have hlen := (program_get r p hp).1
    refine ⟨r, p, ?_, hc, hl, hlen, he⟩
    unfold executeWith
    rw [hr]
    dsimp only
    rw [hp]
    simp [hl]
  · right
    unfold executeWith
    rw [he]

theorem executeWith_fuel_mono (a : ChainAlg) (n : Nat) (o : List TermP) (f k : Nat) (x : List Int × List Op)
    (h : executeWith (SeqAlg.findF f) a n o = .ok x) : executeWith (SeqAlg.findF (f + k)) a n o = .ok x := by
  unfold executeWith at h ⊢
  cases hc : a.findWith (SeqAlg.findF f) n o with
  | error e => rw [hc] at h; cases h
  | ok c =>
    rw [hc] at h
    rw [findWith_mono (SeqAlg.findF f) (SeqAlg.findF (f + k))
      (fun s T c' hh => SeqAlg.findF_mono s f k T c' hh) a n o c hc]
    exact h

/-- what the driver's model (fuel search) returns is what the fuel-indexed model returns -/
theorem findWith_of_find (a : ChainAlg) (n : Nat) (o : List TermP) (c : List Int)
    (h : a.find n o = .ok c) : ∃ f, a.findWith (SeqAlg.findF f) n o = .ok c := by
  rw [find_eq_findWith] at h
  rcases findWith_query SeqAlg.find a n o with hq | ⟨s, T, K, hq⟩
  · exact ⟨0, (hq _).trans h⟩
  · rw [hq] at h
    cases hs : s.find T with
    | none => rw [hs] at h; cases h
    | some c' =>
      rw [hs] at h
      obtain ⟨f, hf⟩ := SeqAlg.find_findF s _ c' hs
      exact ⟨f, by rw [hq, hf]; exact h⟩

theorem executeWith_of_execute (a : ChainAlg) (n : Nat) (o : List TermP) (x : List Int × List Op)
    (h : execute a n o = .ok x) : ∃ f0, ∀ f, f0 ≤ f → executeWith (SeqAlg.findF f) a n o = .ok x := by
  unfold execute at h
  cases hc : a.find n o with
  | error e => rw [hc] at h; cases h
  | ok c =>
    rw [hc] at h
    obtain ⟨f0, hf0⟩ := findWith_of_find a n o c hc
    have h0 : executeWith (SeqAlg.findF f0) a n o = .ok x := by
      unfold executeWith; rw [hf0]; exact h
    refine ⟨f0, fun f hf => ?_⟩
    have := executeWith_fuel_mono a n o f0 (f - f0) x h0
    rw [Nat.add_sub_cancel' hf] at this
    exact this

end P.DA
