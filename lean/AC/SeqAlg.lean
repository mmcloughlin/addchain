import AC.Strat
import AC.HeurTotal
/-! Unified executable model of the exported sequence algorithms: heuristic compositions
    (alg/heuristic) and continued-fraction strategies (alg/contfrac). -/
namespace P

inductive Heur | halving | deltaLargest | approximation | useFirst (hs : List Heur)
deriving Repr

/-- atomic heuristics only, which is what `UseFirst` is applied to in practice; a `useFirst` nested
    inside a `useFirst` suggests nothing here, whereas Go's would call the inner `Suggest`
    (`Heur.isTotal` is `false` for such values) -/
def Heur.suggestAtom : Heur → Suggest
  | .halving => suggestHalving
  | .deltaLargest => suggestDelta
  | .approximation => suggestApprox
  | .useFirst _ => fun _ _ => none

def Heur.suggest : Heur → Suggest
  | .useFirst hs => suggestFirst (hs.map Heur.suggestAtom)
  | h => h.suggestAtom

inductive SeqAlg | heuristic (h : Heur) | contfrac (s : Strategy)
deriving Repr

/-- try increasing fuel; by `cf_mono` any fuel that returns `some` returns the same chain -/
def cfSearch (s : Strategy) (ns : List Int) : Nat → Nat → Option (List Int)
  | 0, _ => none
  | t+1, f => match chain s f ns with
    | some c => some c
    | none => cfSearch s ns t (4 * f)

/-- `FindSequence`; `none` = the Go code reports failure (partial heuristic), or would not terminate -/
def SeqAlg.find : SeqAlg → List Int → Option (List Int)
  | .heuristic h, ts => findSequence h.suggest (((sortUniq ([1, 2] ++ ts)).getLastD 0).toNat + 1) ts
  | .contfrac s, ts => cfSearch s (ts.mergeSort (fun a b => a ≤ b)) 12 64

theorem Heur.sound_atom : ∀ h : Heur, Sound h.suggestAtom
  | .halving => sound_halving
  | .deltaLargest => sound_delta
  | .approximation => sound_approx
  | .useFirst _ => fun _ _ _ _ h => nomatch h

theorem Heur.sound : ∀ h : Heur, Sound h.suggest
  | .useFirst _ => sound_first _ (List.forall_mem_map.2 fun h _ => h.sound_atom)
  | .halving => sound_halving
  | .deltaLargest => sound_delta
  | .approximation => sound_approx

/-- "ends in / contains a total heuristic" -/
def Heur.isTotal : Heur → Bool
  | .deltaLargest => true
  | .approximation => true
  | .halving => false
  | .useFirst hs => hs.any fun h => match h with | .deltaLargest => true | .approximation => true | _ => false

theorem Heur.total (h : Heur) (ht : h.isTotal = true) : Total h.suggest := by
  cases h with
  | halving => simp [Heur.isTotal] at ht
  | deltaLargest => exact total_delta
  | approximation => exact total_approx
  | useFirst hs =>
    simp only [Heur.isTotal, List.any_eq_true] at ht
    obtain ⟨a, ha, hta⟩ := ht
    cases a with
    | deltaLargest =>
      exact total_first_of_mem _ suggestDelta (List.mem_map.2 ⟨_, ha, rfl⟩) total_delta
    | approximation =>
      exact total_first_of_mem _ suggestApprox (List.mem_map.2 ⟨_, ha, rfl⟩) total_approx
    | halving => simp at hta
    | useFirst _ => simp at hta

theorem cfSearch_some (s : Strategy) (ns c : List Int) (t f : Nat) (h : cfSearch s ns t f = some c) :
    ∃ f', chain s f' ns = some c := by
  fun_induction cfSearch s ns t f with
  | case1 => cases h
  | case2 t f c' hc => cases h; exact ⟨f, hc⟩
  | case3 t f hc ih => exact ih h

end P
