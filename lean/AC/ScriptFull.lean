import AC.RTFull
import AC.Script
/-! Script-level round trip `parse (printChain t) = .ok t` over the full model (C07): the tabwriter
layout of `printChain` is an instance of "name, ≥ 1 blank, `= `, expression, newline" / "`return`,
≥ 1 blank, expression, newline", and such text parses back through `Chain <- Assignment* Return _ EOF`
(the line-level facts are those of `AC/Script.lean`, with a padding of its own for every line). -/
namespace P.PegF
open AC.Gen
open P.Peg hiding Expr Stmt expr assignment ret starA chainP eol eof ws1 optU retKw

/-- the domain of the round-trip theorem -/
def WFTree (t : Tree) : Prop :=
  ∃ as x, t = as ++ [⟨[], x⟩] ∧ (∀ st ∈ as, ValidIdent st.name ∧ WF true st.e) ∧ WF true x

def lineA (p : Nat) (st : Stmt) : List Char :=
  st.name ++ (spaces (p + 1) ++ ('=' :: ' ' :: (prBody st.e ++ ['\n'])))
def lineR (p : Nat) (x : Expr) : List Char :=
  "return".toList ++ (spaces (p + 1) ++ (prBody x ++ ['\n']))

def printAllF (pa : Stmt → Nat) (pr : Nat) : List Stmt → Expr → List Char
  | [], x => lineR pr x
  | st :: r, x => lineA (pa st) st ++ printAllF pa pr r x

theorem expr_nl (fuel : Nat) (x : Expr) (rest : List Char) (hx : WF true x) (hf : pdepth x < fuel) :
    Reads (expr fuel) (prBody x ++ '\n' :: rest) x ('\n' :: rest) := ⟨fun e => by
  obtain ⟨h1, h2⟩ := noOp_of_head (c := '\n') rest (by decide) (by decide)
  rw [expr_rt fuel x hx hf ('\n' :: rest) e (endTok_cons (by decide)) h1
    (noBaseStart_of_head (by decide) (by decide)) h2, dropWs_cons (by decide)]⟩

/- `assignment fuel` and `ret fuel` are `Gram.assignment (expr fuel) Stmt.mk` and `Gram.ret (expr fuel) (Stmt.mk [])`
   of `AC/Script.lean` by unfolding: `P.PegF.eol`, `optU` and `retKw` are written out again in the model file with
   the bodies of those of `P.Peg`. The three lemmas below rely on it when they apply the `Gram` facts. -/
theorem assignment_ok (fuel pad : Nat) (st : Stmt) (rest : List Char) (e : Bool)
    (hn : ValidIdent st.name) (hx : WF true st.e) (hf : pdepth st.e < fuel) :
    assignment fuel (lineA pad st ++ rest) e = (some (st, rest), e) :=
  (Gram.reads_assignment (mk := Stmt.mk) pad hn (dropWs_body hx _) (expr_nl fuel st.e rest hx hf)).run e

theorem assignment_fail_ret (fuel pad : Nat) (x : Expr) (rest : List Char) (e : Bool) (hx : WF true x) :
    assignment fuel (lineR pad x ++ rest) e = (none, e) := by
  obtain ⟨c, tl, hb, hg⟩ := body_head hx
  exact (Gram.fails_assignment_ret (ex := expr fuel) (mk := Stmt.mk) pad hb hg).run e

theorem ret_ok (fuel pad : Nat) (x : Expr) (e : Bool) (hx : WF true x) (hf : pdepth x < fuel) :
    ret fuel (lineR pad x) e = (some (⟨[], x⟩, []), e) :=
  (Gram.reads_ret (mk := Stmt.mk []) pad (dropWs_body hx _) (expr_nl fuel x [] hx hf)).run e

theorem starA_isStar (fuel : Nat) : Gram.IsStar (assignment fuel) (fun acc st => acc ++ [st]) (starA fuel) :=
  ⟨fun _ => rfl, fun h => by simp only [starA, h], fun h => by simp only [starA, h]⟩

theorem starA_ok (fuel : Nat) (pa : Stmt → Nat) (pr : Nat) :
    ∀ (as : List Stmt) (k : Nat) (acc : List Stmt) (x : Expr) (e : Bool),
    as.length < k → (∀ st ∈ as, ValidIdent st.name ∧ WF true st.e ∧ pdepth st.e < fuel) → WF true x →
    starA fuel k acc (printAllF pa pr as x) e = (some (acc ++ as, lineR pr x), e) :=
  fun as k acc x e hk hall hx =>
    (Gram.star_lines (starA_isStar fuel) (txt := fun as => printAllF pa pr as x) (line := fun st => lineA (pa st) st)
      ⟨fun e => by have h := assignment_fail_ret fuel pr x [] e hx; rwa [List.append_nil] at h⟩
      (fun _ _ => rfl)
      as k acc hk fun st hst rest =>
        ⟨fun e => assignment_ok fuel (pa st) st rest e (hall st hst).1 (hall st hst).2.1 (hall st hst).2.2⟩).run e

theorem length_lineA (p : Nat) (st : Stmt) : (lineA p st).length = st.name.length + p + (prBody st.e).length + 4 :=
  Gram.length_lineA p st.name (prBody st.e)
theorem length_lineR (p : Nat) (x : Expr) : (lineR p x).length = p + (prBody x).length + 8 :=
  Gram.length_lineR p (prBody x)

/-- the text is longer than the number of statements (fuel of the `*` loop) and than every
    printed expression (fuel of the recursion through parentheses) -/
theorem length_printAllF (pa : Stmt → Nat) (pr : Nat) (as : List Stmt) (x : Expr) :
    as.length < (printAllF pa pr as x).length ∧
    (∀ st ∈ as, (prBody st.e).length ≤ (printAllF pa pr as x).length) ∧
    (prBody x).length ≤ (printAllF pa pr as x).length := by
  induction as with
  | nil =>
    rw [printAllF, length_lineR]
    exact ⟨Nat.succ_pos _, fun st h => (nomatch h), by omega⟩
  | cons st r ih =>
    obtain ⟨h1, h2, h3⟩ := ih
    have hA := length_lineA (pa st) st
    rw [printAllF, List.length_append, List.length_cons]
    refine ⟨by omega, fun s hs => ?_, Nat.le_trans h3 (Nat.le_add_left _ _)⟩
    rcases List.mem_cons.1 hs with rfl | hs
    · omega
    · exact Nat.le_trans (h2 s hs) (Nat.le_add_left _ _)

/-- a whole script — assignments with valid names, then the return statement — printed with
    any padding parses back to itself -/
theorem chain_rt (fuel : Nat) (pa : Stmt → Nat) (pr : Nat) (as : List Stmt) (x : Expr)
    (hall : ∀ st ∈ as, ValidIdent st.name ∧ WF true st.e ∧ pdepth st.e < fuel) (hx : WF true x)
    (hf : pdepth x < fuel) :
    chainP fuel (printAllF pa pr as x) false = (some (as ++ [⟨[], x⟩], []), false) := by
  have h1 : Reads (starA fuel (printAllF pa pr as x).length []) (printAllF pa pr as x) as (lineR pr x) :=
    ⟨fun e => by simpa using starA_ok fuel pa pr as _ [] x e (length_printAllF pa pr as x).1 hall hx⟩
  have h2 : Reads (ret fuel) (lineR pr x) ⟨[], x⟩ [] := ⟨fun e => ret_ok fuel pr x e hx hf⟩
  exact Gram.run_chain h1 h2 false

/-! The tabwriter layout is an instance of `printAllF`. -/

theorem foldl_max_ge_init (cells : List (List Char)) (init : Nat) :
    init ≤ cells.foldl (fun w c => max w (c.length + 1)) init := by
  induction cells generalizing init with
  | nil => exact Nat.le_refl _
  | cons a t ih => exact Nat.le_trans (Nat.le_max_left _ _) (ih _)

theorem foldl_max_ge_mem (cells : List (List Char)) (init : Nat) (c : List Char) (h : c ∈ cells) :
    c.length + 1 ≤ cells.foldl (fun w c => max w (c.length + 1)) init := by
  induction cells generalizing init with
  | nil => cases h
  | cons a t ih =>
    rcases List.mem_cons.1 h with rfl | h
    · exact Nat.le_trans (Nat.le_max_right _ _) (foldl_max_ge_init t _)
    · exact ih _ h

theorem foldl_max_le (cells : List (List Char)) (init k : Nat) (hi : init ≤ k)
    (h : ∀ c ∈ cells, c.length + 1 ≤ k) :
    cells.foldl (fun w c => max w (c.length + 1)) init ≤ k := by
  induction cells generalizing init with
  | nil => exact hi
  | cons a t ih =>
    apply ih
    · exact Nat.max_le.2 ⟨hi, h a (by simp)⟩
    · intro c hc; exact h c (by simp [hc])

theorem colWidth_ge (cells : List (List Char)) (c : List Char) (h : c ∈ cells) :
    c.length + 1 ≤ colWidth cells := foldl_max_ge_mem cells 1 c h
theorem colWidth_pos (cells : List (List Char)) : 1 ≤ colWidth cells := foldl_max_ge_init cells 1
theorem colWidth_le (cells : List (List Char)) (k : Nat) (hk : 1 ≤ k) (h : ∀ c ∈ cells, c.length + 1 ≤ k) :
    colWidth cells ≤ k := foldl_max_le cells 1 k hk h

theorem spaces_add (a b : Nat) : spaces a ++ spaces b = spaces (a + b) := by
  simp [spaces, List.replicate_append_replicate]

theorem validIdent_ne_nil {s : List Char} (h : ValidIdent s) : s ≠ [] := by
  obtain ⟨c, cs, rfl, _, _⟩ := h
  exact List.cons_ne_nil c cs

theorem cells_named {st : Stmt} (h : st.name ≠ []) : cell1 st = st.name ∧ cell2 st = ['='] := by
  cases hn : st.name with
  | nil => exact absurd hn h
  | cons a b => simp [cell1, cell2, hn]

theorem printLine_named (w1 w2 : Nat) (st : Stmt) (hne : st.name ≠ []) (h1 : st.name.length + 1 ≤ w1)
    (h2 : w2 = 2) : printLine w1 w2 st = lineA (w1 - st.name.length - 1) st := by
  obtain ⟨hc1, hc2⟩ := cells_named hne
  subst h2
  simp only [printLine, hc1, hc2, padTo, prAt_lowest, lineA, spaces]
  have : w1 - st.name.length = w1 - st.name.length - 1 + 1 := by omega
  rw [← this]
  simp

theorem printLine_ret (w1 w2 : Nat) (x : Expr) (h1 : 7 ≤ w1) (h2 : 1 ≤ w2) :
    printLine w1 w2 ⟨[], x⟩ = lineR (w1 - 6 + w2 - 1) x := by
  have hlen := Gram.return_length
  have hidx : w1 - 6 + w2 - 1 + 1 = (w1 - 6) + w2 := by omega
  simp only [printLine, cell1, cell2, padTo, prAt_lowest, lineR, List.isEmpty_nil, if_true, hlen, hidx,
    spaces, List.length_nil, Nat.sub_zero, List.nil_append, List.append_assoc]
  rw [← List.append_assoc (List.replicate _ _), List.replicate_append_replicate]

theorem flatMap_lines (w1 w2 : Nat) (x : Expr) (h7 : 7 ≤ w1) (hw2 : 1 ≤ w2) :
    ∀ (as : List Stmt), (∀ st ∈ as, st.name ≠ [] ∧ st.name.length + 1 ≤ w1) → (as ≠ [] → w2 = 2) →
    (as ++ [(⟨[], x⟩ : Stmt)]).flatMap (printLine w1 w2)
      = printAllF (fun st => w1 - st.name.length - 1) (w1 - 6 + w2 - 1) as x := by
  intro as
  induction as with
  | nil =>
    intro _ _
    simp only [List.nil_append, List.flatMap_cons, List.flatMap_nil, List.append_nil, printAllF]
    exact printLine_ret w1 w2 x h7 hw2
  | cons st r ih =>
    intro hall h2
    have hw : w2 = 2 := h2 (by simp)
    obtain ⟨hne, hl⟩ := hall st (by simp)
    simp only [List.cons_append, List.flatMap_cons, printAllF]
    rw [printLine_named w1 w2 st hne hl hw, ih (fun s hs => hall s (List.mem_cons_of_mem _ hs)) (fun _ => hw)]

theorem printChain_eq (as : List Stmt) (x : Expr) (hall : ∀ st ∈ as, ValidIdent st.name) :
    ∃ pa pr, printChain (as ++ [⟨[], x⟩]) = printAllF pa pr as x := by
  let t : Tree := as ++ [⟨[], x⟩]
  let w1 := colWidth (t.map cell1)
  let w2 := colWidth (t.map cell2)
  refine ⟨fun st => w1 - st.name.length - 1, w1 - 6 + w2 - 1, ?_⟩
  have hmem : ∀ st ∈ as, st ∈ t := fun st h => List.mem_append_left _ h
  have hge1 : ∀ st ∈ t, (cell1 st).length + 1 ≤ w1 := fun st h => colWidth_ge _ _ (List.mem_map_of_mem h)
  have h7 : 7 ≤ w1 := by
    have := hge1 ⟨[], x⟩ (List.mem_append_right _ List.mem_cons_self)
    rwa [show cell1 ⟨[], x⟩ = "return".toList from rfl, Gram.return_length] at this
  apply flatMap_lines w1 w2 x h7 (colWidth_pos _) as
  · intro st hst
    have hne := validIdent_ne_nil (hall st hst)
    exact ⟨hne, (cells_named hne).1 ▸ hge1 st (hmem st hst)⟩
  · intro hne
    apply Nat.le_antisymm
    · apply colWidth_le _ 2 (by decide)
      intro c hc
      obtain ⟨st, _, rfl⟩ := List.mem_map.1 hc
      unfold cell2
      split <;> simp
    · cases as with
      | nil => exact absurd rfl hne
      | cons st r =>
        have := colWidth_ge (t.map cell2) (cell2 st) (List.mem_map_of_mem (hmem st List.mem_cons_self))
        rwa [(cells_named (validIdent_ne_nil (hall st List.mem_cons_self))).2] at this

/-- **C07 round trip over the full model** -/
theorem roundtrip (t : Tree) (h : WFTree t) : parse (printChain t) = .ok t := by
  obtain ⟨as, x, rfl, hall, hx⟩ := h
  obtain ⟨pa, pr, hp⟩ := printChain_eq as x (fun st hst => (hall st hst).1)
  rw [hp]
  have hlen := (length_printAllF pa pr as x).2
  have := chain_rt ((printAllF pa pr as x).length + 1) pa pr as x
    (fun st hst => ⟨(hall st hst).1, (hall st hst).2, by
      have h1 := pdepth_le_length st.e
      have h2 := hlen.1 st hst
      omega⟩) hx (by
      have h1 := pdepth_le_length x
      have h2 := hlen.2
      omega)
  unfold parse
  rw [this]

end P.PegF
