import AC.Chain
import AC.OpsEq
/-! Model additions for chain.go: `Validate`, `Produces`, `Superset`, and a decidable
    (boolean) rendering of the specification `IsChain`, used by the driver as the oracle on
    the implementation's own output. -/
namespace P

/-- `Chain.Validate` -/
def validate (c : Chain) : Bool := match program c with | .ok _ => true | .error _ => false

/-- `Chain.Produces` -/
def produces (c : Chain) (t : Int) : Bool := validate c && c.getLast? == some t

/-- `Chain.Superset` -/
def superset (c : Chain) (ts : List Int) : Bool := validate c && ts.all (fun t => c.contains t)

/-- boolean specification of an addition chain, written directly from the property text -/
def isChainB (c : Chain) : Bool :=
  !c.isEmpty && at' c 0 == 1 && !c.contains 0 && !hasDup c &&
  (List.range c.length).all fun k => k == 0 ||
    (List.range k).any fun i => (List.range k).any fun j => at' c i + at' c j == at' c k

theorem isChainB_iff (c : Chain) : isChainB c = true ↔ IsChain c := by
  unfold isChainB IsChain
  simp only [Bool.and_eq_true, Bool.not_eq_true', List.all_eq_true, List.mem_range,
    Bool.or_eq_true, beq_iff_eq, List.any_eq_true, List.isEmpty_eq_false_iff, and_assoc,
    hasDup_false_iff, ne_eq, exists_and_left]
  -- the conjuncts agree one by one; the last up to `k = 0 ∨ _` against `0 < k → _`
  refine and_congr_right fun _ => and_congr_right fun _ => and_congr
    (by rw [← Bool.not_eq_true, List.contains_iff_mem])
    (and_congr_right fun _ => forall_congr' fun k => ⟨fun h hk0 hkl => ?_, fun h hkl => ?_⟩)
  · exact (h hkl).resolve_left (Nat.ne_of_gt hk0)
  · exact (Nat.eq_zero_or_pos k).imp_right (h · hkl)

theorem validate_eq_true_iff (c : Chain) : validate c = true ↔ IsChain c := by
  rw [← validate_iff, validate]
  cases program c with
  | ok p => exact ⟨fun _ => ⟨p, rfl⟩, fun _ => rfl⟩
  | error e => exact ⟨nofun, nofun⟩

/-- oracle used by the driver: the direct boolean specification on short sequences, the
    (proved equivalent) validation model on long ones, where the cubic specification is too slow -/
def isChainO (c : Chain) : Bool := if c.length ≤ 40 then isChainB c else validate c

theorem isChainO_iff (c : Chain) : isChainO c = true ↔ IsChain c := by
  unfold isChainO
  split
  · exact isChainB_iff c
  · exact validate_eq_true_iff c

end P
