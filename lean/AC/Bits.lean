/-! C19 prototype: bit helpers of internal/bigint on naturals. -/
namespace P.Bits

def mask (l h : Nat) : Nat := 2 ^ h - 2 ^ l
def ones (n : Nat) : Nat := mask 0 n
def extract (x l h : Nat) : Nat := (mask l h &&& x) >>> l

theorem mask_eq_mul (l h : Nat) (hlh : l ≤ h) : mask l h = 2 ^ l * (2 ^ (h - l) - 1) := by
  rw [mask, Nat.mul_sub, Nat.mul_one, ← Nat.pow_add, Nat.add_sub_cancel' hlh]

theorem mask_testBit (l h i : Nat) (hlh : l ≤ h) : (mask l h).testBit i = (decide (l ≤ i) && decide (i < h)) := by
  rw [mask_eq_mul l h hlh, Nat.testBit_two_pow_mul, Nat.testBit_two_pow_sub_one]
  by_cases h1 : l ≤ i
  · simp only [Nat.sub_lt_sub_iff_right h1, ge_iff_le]
  · simp [h1]

theorem ones_eq (n : Nat) : ones n = 2 ^ n - 1 := by simp [ones, mask]

theorem extract_eq (x l h : Nat) (hlh : l ≤ h) : extract x l h = x / 2 ^ l % 2 ^ (h - l) := by
  apply Nat.eq_of_testBit_eq
  intro i
  rw [extract, Nat.testBit_shiftRight, Nat.testBit_and, mask_testBit l h (l + i) hlh,
    Nat.testBit_mod_two_pow, Nat.testBit_div_two_pow, Nat.add_comm i l]
  simp only [Nat.le_add_right, decide_true, Bool.true_and, Nat.lt_sub_iff_add_lt']

end P.Bits
