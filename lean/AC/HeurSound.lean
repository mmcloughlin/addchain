import AC.Heur
/-! The heuristics of heuristic.go, each with the proof that it is `Sound`. -/
namespace P

theorem sound_of_complement (sg : Suggest)
    (h : ∀ f t ins, ProtoOK f t → sg f t = some ins → ∃ b ∈ f, ins = [t - b]) : Sound sg := by
  intro f t ins hp hsg
  obtain ⟨b, hb, rfl⟩ := h f t ins hp hsg
  have h1 := hp.pos b hb
  have h2 := hp.top b hb
  refine ⟨List.pairwise_singleton _ _, fun x hx => ?_, b, Or.inl hb, t - b, Or.inr (List.mem_singleton_self _), by omega⟩
  rw [List.mem_singleton.1 hx]
  omega

/-- `DeltaLargest.Suggest` (heuristic.go) -/
def suggestDelta : Suggest := fun f t => some [t - f.getLastD 0]

theorem sound_delta : Sound suggestDelta :=
  sound_of_complement _ fun f _ _ hp h =>
    ⟨f.getLastD 0, getLastD_mem f (protoOK_ne_nil hp), (Option.some.inj h).symm⟩

/-- `UseFirst.Suggest` (heuristic.go) -/
def suggestFirst : List Suggest → Suggest
  | [], _, _ => none
  | sg :: rest, f, t => match sg f t with
    | some ins => some ins
    | none => suggestFirst rest f t

theorem sound_first (sgs : List Suggest) (hall : ∀ sg ∈ sgs, Sound sg) : Sound (suggestFirst sgs) := by
  intro f t ins hp h
  fun_induction suggestFirst sgs f t with
  | case1 => cases h
  | case2 sg rest f t i hsg =>
    cases h
    exact hall sg List.mem_cons_self f t _ hp hsg
  | case3 sg rest f t hsg ih => exact ih (fun s hs => hall s (List.mem_cons_of_mem _ hs)) hp h

/-- state of the two-pointer scan of `Approximation.Suggest` (heuristic.go) -/
structure ApSt where
  first : Bool
  mindelta : Int
  best : Int

/-- `l`, `rp = r+1`; returns the suggested insertion -/
def approxLoop (f : List Int) (t : Int) : Nat → Nat → ApSt → Int
  | l, 0, st => st.best
  | l, rp+1, st =>
    if l ≤ rp then
      let a := at' f l
      let b := at' f rp
      let delta := t - (a + b)
      if delta < 0 then approxLoop f t l rp st
      else
        let ins := a + delta
        if f.contains ins then ins
        else
          let st' := if st.first || delta < st.mindelta then ⟨false, delta, ins⟩ else st
          approxLoop f t (l+1) (rp+1) st'
    else st.best
termination_by l rp _ => (rp + 1 - l) + rp
decreasing_by all_goals simp_wf <;> omega

def suggestApprox : Suggest := fun f t => some [approxLoop f t 0 f.length ⟨true, 0, 0⟩]

def ApOK (f : List Int) (t : Int) (st : ApSt) : Prop := st.first = false → ∃ b ∈ f, st.best = t - b

theorem ins_eq_complement (a b t : Int) : a + (t - (a + b)) = t - b := by omega

/-- The scan returns the complement of a member as soon as `best` has been set; it is set, or the
    scan returns, in the first round in which the pair is not above `t`. -/
theorem approxLoop_spec (f : List Int) (t : Int) (l rp : Nat) (st : ApSt) :
    rp ≤ f.length → ApOK f t st → (st.first = false ∨ (l < rp ∧ at' f l + at' f (rp - 1) ≤ t)) →
    ∃ b ∈ f, approxLoop f t l rp st = t - b := by
  fun_induction approxLoop f t l rp st with
  | case1 l st =>
    intro _ hok hfirst
    exact hok (hfirst.resolve_right fun h => Nat.not_lt_zero _ h.1)
  | case2 l rp st hl a b delta hd ih =>
    intro hrp hok hfirst
    refine ih (Nat.le_of_succ_le hrp) hok (Or.inl (hfirst.resolve_right fun h => ?_))
    exact Int.not_lt.2 (Int.sub_nonneg_of_le h.2) hd
  | case3 l rp st hl a b delta hd ins hc =>
    intro hrp _ _
    exact ⟨b, at'_mem_of_lt f rp hrp, ins_eq_complement ..⟩
  | case4 l rp st hl a b delta hd ins hc st' ih =>
    intro hrp hok _
    -- after this round `best` is set: now, or it was before
    have hst' : st'.first = false ∧ ApOK f t st' := by
      simp only [st']
      split
      · exact ⟨rfl, fun _ => ⟨b, at'_mem_of_lt f rp hrp, ins_eq_complement ..⟩⟩
      · rename_i hcond
        exact ⟨Bool.eq_false_iff.2 fun hf => hcond (by rw [hf]; rfl), hok⟩
    exact ih hrp hst'.2 (Or.inl hst'.1)
  | case5 l rp st hl =>
    intro _ hok hfirst
    exact hok (hfirst.resolve_right fun h => hl (Nat.le_of_lt_succ h.1))

theorem sound_approx : Sound suggestApprox :=
  sound_of_complement _ fun f t ins hp h => by
    have hlen : 0 < f.length := List.length_pos_iff.mpr (protoOK_ne_nil hp)
    -- the first pair, smallest and largest member, is not above `t`: `f[0] ≤ 1` and everything is `< t`
    have hf0 : at' f 0 ≤ 1 := by
      obtain ⟨i, hi, hie⟩ := index_of_mem f 1 hp.one
      cases i with
      | zero => exact Int.le_of_eq hie
      | succ i => exact hie ▸ Int.le_of_lt (at'_lt_of_pairwise f hp.asc 0 (i + 1) (Nat.succ_pos i) hi)
    have hl := hp.top _ (at'_mem_of_lt f (f.length - 1) (Nat.sub_lt hlen Nat.one_pos))
    obtain ⟨b, hb, hres⟩ := approxLoop_spec f t 0 f.length ⟨true, 0, 0⟩ (Nat.le_refl _)
      (fun h => Bool.noConfusion h) (Or.inr ⟨hlen, by omega⟩)
    exact ⟨b, hb, by rw [← hres]; exact (Option.some.inj h).symm⟩

theorem two_pow_le_int {a b : Nat} (h : a ≤ b) : (2 : Int) ^ a ≤ 2 ^ b := by
  have := Nat.pow_le_pow_right (n := 2) (by decide) h
  exact_mod_cast this

/-- big.Int.BitLen -/
def bitLenN (n : Nat) : Nat := if n = 0 then 0 else Nat.log2 n + 1

theorem bitLenN_of_ne_zero {n : Nat} (h : n ≠ 0) : bitLenN n = Nat.log2 n + 1 := if_neg h

theorem lt_bitLenN {n k : Nat} (h : n ≠ 0) : k < bitLenN n ↔ 2 ^ k ≤ n := by
  rw [bitLenN_of_ne_zero h, Nat.lt_succ_iff, Nat.le_log2 h]

theorem bitLenN_pos {n : Nat} (h : n ≠ 0) : 1 ≤ bitLenN n :=
  (lt_bitLenN h).2 (Nat.pos_of_ne_zero h)

theorem lt_bitLenN_int {n : Int} (hn : 0 < n) {k : Nat} : k < bitLenN n.toNat ↔ (2 : Int) ^ k ≤ n := by
  rw [lt_bitLenN (by omega), Int.le_toNat (Int.le_of_lt hn), Int.natCast_pow]; rfl

/-- `Halving.Suggest` (heuristic.go) on positive integers -/
def suggestHalving : Suggest := fun f t =>
  let next := f.getLastD 0
  let r := t / next
  if bitLenN r.toNat < 2 then none
  else
    let u := bitLenN r.toNat - 1
    let k := t / 2 ^ u
    let kshifts := (List.range (u + 1)).map (fun e => k * 2 ^ e)
    let d := t - k * 2 ^ u
    if d = 0 then some (kshifts.take u) else some (insertSortedUnique kshifts d)

/-- the ladder `k·2^0, …, k·2^(n-1)` that `Halving` proposes -/
def ladder (k : Int) (n : Nat) : List Int := (List.range n).map (fun e => k * 2 ^ e)

theorem mem_ladder {k : Int} {n : Nat} {x : Int} : x ∈ ladder k n ↔ ∃ e, e < n ∧ k * 2 ^ e = x := by
  simp only [ladder, List.mem_map, List.mem_range]

theorem ladder_take (k : Int) {u n : Nat} (h : u ≤ n) : (ladder k n).take u = ladder k u := by
  rw [ladder, ← List.map_take, List.take_range, Nat.min_eq_left h]; rfl

theorem rung_pos {k : Int} (hk : 1 ≤ k) (e : Nat) : 1 ≤ k * 2 ^ e :=
  Int.mul_pos (Int.lt_of_lt_of_le Int.zero_lt_one hk) (Int.pow_pos (by decide))

theorem rung_lt {k : Int} (hk : 1 ≤ k) {a b : Nat} (h : a < b) : k * 2 ^ a < k * 2 ^ b :=
  Int.mul_lt_mul_of_pos_left (Int.pow_lt_pow_of_lt (by decide) h) (Int.lt_of_lt_of_le Int.zero_lt_one hk)

theorem pairwise_ladder {k : Int} (hk : 1 ≤ k) (n : Nat) : (ladder k n).Pairwise (· < ·) := by
  rw [ladder, List.pairwise_map]
  exact List.pairwise_lt_range.imp (rung_lt hk)

/-- remainder zero: `t = k·2^u` is twice the top rung of the ladder below it -/
theorem ladder_good (f : List Int) {t k : Int} {u : Nat} (hu : 1 ≤ u) (hk : 1 ≤ k) (ht : k * 2 ^ u = t) :
    GoodIns f t (ladder k u) := by
  have htop : k * 2 ^ (u - 1) ∈ ladder k u := mem_ladder.2 ⟨u - 1, Nat.sub_lt hu Nat.one_pos, rfl⟩
  refine ⟨pairwise_ladder hk u, fun x hx => ?_, _, Or.inr htop, _, Or.inr htop, ?_⟩
  · obtain ⟨e, he, rfl⟩ := mem_ladder.1 hx
    exact ⟨rung_pos hk e, ht ▸ rung_lt hk he⟩
  · rw [← Int.two_mul, Int.mul_left_comm, Int.mul_comm 2, ← Int.pow_succ, Nat.succ_eq_add_one, Nat.sub_add_cancel hu, ht]

/-- remainder `d = t - k·2^u > 0`: `t` is the top rung plus `d` -/
theorem ladder_insert_good (f : List Int) {t k : Int} (u : Nat) (hk : 1 ≤ k) (ht : k * 2 ^ u < t) :
    GoodIns f t (insertSortedUnique (ladder k (u + 1)) (t - k * 2 ^ u)) := by
  have h1 := rung_pos hk u
  refine ⟨pairwise_insertSortedUnique _ _ (pairwise_ladder hk (u + 1)), fun x hx => ?_,
    k * 2 ^ u, Or.inr ((mem_insertSortedUnique _ _ _).2 (Or.inr (mem_ladder.2 ⟨u, Nat.lt_succ_self u, rfl⟩))),
    t - k * 2 ^ u, Or.inr ((mem_insertSortedUnique _ _ _).2 (Or.inl rfl)), by omega⟩
  rcases (mem_insertSortedUnique _ _ _).1 hx with rfl | hx
  · omega
  · obtain ⟨e, he, rfl⟩ := mem_ladder.1 hx
    refine ⟨rung_pos hk e, Int.lt_of_le_of_lt ?_ ht⟩
    rcases Nat.lt_succ_iff_lt_or_eq.1 he with he | rfl
    · exact Int.le_of_lt (rung_lt hk he)
    · exact Int.le_refl _

theorem sound_halving : Sound suggestHalving := by
  rw [sound_iff_goodIns]
  intro f t ins hp h
  have hm := getLastD_mem f (protoOK_ne_nil hp)
  have hn0 : 0 < f.getLastD 0 := Int.lt_of_lt_of_le Int.zero_lt_one (hp.pos _ hm)
  have hnt := hp.top _ hm
  unfold suggestHalving at h
  dsimp only at h
  split at h
  · cases h
  · rename_i hbl
    -- `2^u ≤ t / next ≤ t`, so `k = t / 2^u ≥ 1`
    have hr1 : 1 ≤ t / f.getLastD 0 := Int.le_ediv_of_mul_le hn0 (by rw [Int.one_mul]; exact Int.le_of_lt hnt)
    have hrt : t / f.getLastD 0 ≤ t := Int.ediv_le_self _ (Int.le_of_lt (Int.lt_trans hn0 hnt))
    have hu : 1 ≤ bitLenN (t / f.getLastD 0).toNat - 1 := Nat.le_sub_one_of_lt (Nat.not_lt.1 hbl)
    have hpow := (lt_bitLenN_int hr1).1 (Nat.sub_lt (Nat.lt_of_lt_of_le (by decide) (Nat.not_lt.1 hbl)) Nat.one_pos)
    have hP0 : (0 : Int) < 2 ^ (bitLenN (t / f.getLastD 0).toNat - 1) := Int.pow_pos (by decide)
    have hk : 1 ≤ t / 2 ^ (bitLenN (t / f.getLastD 0).toNat - 1) :=
      Int.le_ediv_of_mul_le hP0 (by rw [Int.one_mul]; exact Int.le_trans hpow hrt)
    have hlo := Int.ediv_mul_le t (Int.ne_of_gt hP0)
    split at h
    · rename_i hd
      cases h
      exact ladder_take _ (Nat.le_succ _) ▸ ladder_good f hu hk (Int.eq_of_sub_eq_zero hd).symm
    · rename_i hd
      cases h
      exact ladder_insert_good f _ hk (Int.lt_iff_le_and_ne.2 ⟨hlo, fun e => hd (Int.sub_eq_zero_of_eq e.symm)⟩)

theorem sound_ensemble1 : Sound (suggestFirst [suggestHalving, suggestDelta]) :=
  sound_first _ (List.forall_mem_cons.2 ⟨sound_halving, List.forall_mem_singleton.2 sound_delta⟩)
theorem sound_ensemble2 : Sound (suggestFirst [suggestHalving, suggestApprox]) :=
  sound_first _ (List.forall_mem_cons.2 ⟨sound_halving, List.forall_mem_singleton.2 sound_approx⟩)

end P
