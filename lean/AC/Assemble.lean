import AC.ChainSet
/-! C01 prototype: the final step of the dictionary and runs algorithms — merge the pruned
    dictionary chain with the `dictsumchain` elements, sort, de-duplicate. -/
namespace P

theorem head_sortUniq_one (l : List Int) (h1 : (1 : Int) ∈ l) (hpos : ∀ x ∈ l, 1 ≤ x) :
    (sortUniq l).head? = some 1 := by
  have hasc := pairwise_sortUniq l
  have hm1 : (1 : Int) ∈ sortUniq l := (mem_sortUniq l 1).2 h1
  cases hs : sortUniq l with
  | nil => rw [hs] at hm1; simp at hm1
  | cons a r =>
    rw [hs] at hasc hm1
    have ha : 1 ≤ a := hpos a ((mem_sortUniq l a).1 (by rw [hs]; simp))
    rcases List.mem_cons.mp hm1 with h | h
    · simp [h]
    · exact absurd ha (Int.not_le.2 ((List.pairwise_cons.mp hasc).1 1 h))

theorem last_sortUniq (l : List Int) (n : Int) (hn : n ∈ l) (hle : ∀ x ∈ l, x ≤ n) :
    (sortUniq l).getLast? = some n :=
  last_of_bound _ n (pairwise_sortUniq l) ((mem_sortUniq l n).2 hn) fun x hx => hle x ((mem_sortUniq l x).1 hx)

theorem isChain_sortUniq (l : List Int) (h1 : (1 : Int) ∈ l) (hpos : ∀ x ∈ l, 1 ≤ x)
    (hcl : ∀ x ∈ l, x = 1 ∨ ∃ a ∈ l, ∃ b ∈ l, a + b = x) : IsChain (sortUniq l) := by
  apply chain_of_closed _ (pairwise_sortUniq l)
  · intro x hx; have := hpos x ((mem_sortUniq l x).1 hx); omega
  · exact head_sortUniq_one l h1 hpos
  · simpa only [mem_sortUniq] using hcl

/-- **assembly**: `pruned` contains 1 and is sum-closed; the `dictsumchain` elements `dc` are each
    the double of, or a pruned element added to, the previous element (starting from a pruned
    element); everything is positive and at most `n`, and `n` is among them. Then the sorted,
    de-duplicated union is an addition chain ending at `n`. -/
theorem dict_assemble (pruned dc : List Int) (n cur0 : Int)
    (hp1 : (1 : Int) ∈ pruned) (hppos : ∀ x ∈ pruned, 1 ≤ x)
    (hpcl : ∀ x ∈ pruned, x = 1 ∨ ∃ a ∈ pruned, ∃ b ∈ pruned, a + b = x)
    (hcur : cur0 ∈ pruned)
    (hdcl : ∀ y ∈ dc, ∃ x, (x = cur0 ∨ x ∈ dc) ∧ (y = x + x ∨ ∃ d ∈ pruned, y = x + d))
    (hdpos : ∀ y ∈ dc, 1 ≤ y) (hle : ∀ x ∈ pruned ++ dc, x ≤ n) (hn : n ∈ pruned ++ dc) :
    IsChain (sortUniq (pruned ++ dc)) ∧ (sortUniq (pruned ++ dc)).getLast? = some n := by
  have hpos : ∀ x ∈ pruned ++ dc, 1 ≤ x := fun x hx =>
    (List.mem_append.mp hx).elim (hppos x) (hdpos x)
  refine ⟨isChain_sortUniq _ (List.mem_append_left _ hp1) hpos fun x hx => ?_, last_sortUniq _ n hn hle⟩
  rcases List.mem_append.mp hx with h | h
  · exact (hpcl x h).imp_right fun ⟨a, ha, b, hb, hab⟩ =>
      ⟨a, List.mem_append_left _ ha, b, List.mem_append_left _ hb, hab⟩
  · right
    obtain ⟨x0, hx0, hform⟩ := hdcl x h
    have hx0m : x0 ∈ pruned ++ dc := by
      rcases hx0 with rfl | h0
      · exact List.mem_append_left _ hcur
      · exact List.mem_append_right _ h0
    rcases hform with rfl | ⟨d, hd, rfl⟩
    · exact ⟨x0, hx0m, x0, hx0m, rfl⟩
    · exact ⟨x0, hx0m, d, List.mem_append_left _ hd, rfl⟩

end P
