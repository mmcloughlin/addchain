/-! C14 prototype: the best-of selection of `search.Execute` (strict `<`, first wins). -/
namespace P.Argmin

/-- state: (best index, minimal cost so far or none for +∞), scanning with running index -/
def step (st : Nat × Option Int) (ic : Nat × Int) : Nat × Option Int :=
  match st.2 with
  | none => (ic.1, some ic.2)
  | some m => if ic.2 < m then (ic.1, some ic.2) else st

def scan (costs : List Int) : Nat × Option Int :=
  ((List.range costs.length).zip costs).foldl step (0, none)

theorem foldl_spec : ∀ (l : List (Nat × Int)) (b : Nat) (m : Int),
    let r := l.foldl step (b, some m)
    ∃ m', r.2 = some m' ∧ m' ≤ m ∧ (∀ ic ∈ l, m' ≤ ic.2) ∧
      ((r.1 = b ∧ m' = m ∧ ∀ ic ∈ l, m ≤ ic.2) ∨
       (∃ pre ic post, l = pre ++ ic :: post ∧ r.1 = ic.1 ∧ m' = ic.2 ∧ (∀ jc ∈ pre, m' < jc.2) ∧ m' < m)) := by
  intro l
  induction l with
  | nil => intro b m; exact ⟨m, rfl, Int.le_refl _, by simp, Or.inl ⟨rfl, rfl, by simp⟩⟩
  | cons ic r ih =>
    intro b m
    simp only [List.foldl_cons, step]
    by_cases hlt : ic.2 < m
    · simp only [hlt, if_true]
      obtain ⟨m', h1, h2, h3, h4⟩ := ih ic.1 ic.2
      refine ⟨m', h1, Int.le_trans h2 (Int.le_of_lt hlt), List.forall_mem_cons.2 ⟨h2, h3⟩, .inr ?_⟩
      rcases h4 with ⟨e1, e2, _⟩ | ⟨pre, jc, post, e1, e2, e3, e4, e5⟩
      · exact ⟨[], ic, r, rfl, e1, e2, nofun, e2 ▸ hlt⟩
      · exact ⟨ic :: pre, jc, post, by rw [e1]; rfl, e2, e3, List.forall_mem_cons.2 ⟨e5, e4⟩, Int.lt_trans e5 hlt⟩
    · simp only [hlt, if_false]
      have hge : m ≤ ic.2 := Int.not_lt.mp hlt
      obtain ⟨m', h1, h2, h3, h4⟩ := ih b m
      refine ⟨m', h1, h2, List.forall_mem_cons.2 ⟨Int.le_trans h2 hge, h3⟩, ?_⟩
      rcases h4 with ⟨e1, e2, e3⟩ | ⟨pre, jc, post, e1, e2, e3, e4, e5⟩
      · exact .inl ⟨e1, e2, List.forall_mem_cons.2 ⟨hge, e3⟩⟩
      · exact .inr ⟨ic :: pre, jc, post, by rw [e1]; rfl, e2, e3,
          List.forall_mem_cons.2 ⟨Int.lt_of_lt_of_le e5 hge, e4⟩, e5⟩

theorem enum_getElem? (l : List Int) (j : Nat) (z : Nat × Int) :
    ((List.range l.length).zip l)[j]? = some z ↔ z.1 = j ∧ l[j]? = some z.2 := by
  rw [List.getElem?_zip_eq_some]
  by_cases hj : j < l.length
  · rw [List.getElem?_range hj, Option.some.injEq, eq_comm]
  · rw [List.getElem?_eq_none (Nat.le_of_not_lt hj)]
    simp

/-- the first element only initialises the minimum, so the scan may as well start from it -/
theorem scan_cons (c0 : Int) (rest : List Int) :
    scan (c0 :: rest) = ((List.range (c0 :: rest).length).zip (c0 :: rest)).foldl step (0, some c0) := by
  unfold scan
  rw [List.length_cons, List.range_succ_eq_map, List.zip_cons_cons, List.foldl_cons, List.foldl_cons]
  simp [step]

theorem scan_spec (costs : List Int) (hne : costs ≠ []) :
    ∃ i, ∃ hi : i < costs.length, scan costs = (i, some costs[i]) ∧ (∀ c ∈ costs, costs[i] ≤ c) ∧
      ∀ j (hj : j < i), costs[i] < costs[j]'(Nat.lt_trans hj hi) := by
  obtain ⟨c0, rest, rfl⟩ := List.exists_cons_of_ne_nil hne
  rw [scan_cons]
  obtain ⟨m', h1, _, h3, h4⟩ := foldl_spec ((List.range (c0 :: rest).length).zip (c0 :: rest)) 0 c0
  have hall : ∀ c ∈ c0 :: rest, m' ≤ c := by
    intro c hc
    obtain ⟨k, hk, he⟩ := List.getElem_of_mem hc
    exact h3 (k, c) (List.mem_of_getElem? ((enum_getElem? _ k (k, c)).2 ⟨rfl, by rw [List.getElem?_eq_getElem hk, he]⟩))
  rcases h4 with ⟨e1, e2, _⟩ | ⟨pre, ic, post, e1, e2, e3, e4, _⟩
  · exact ⟨0, Nat.zero_lt_succ _, Prod.ext e1 (h1.trans (by rw [e2]; rfl)), fun c hc => e2 ▸ hall c hc,
      fun j hj => absurd hj (Nat.not_lt_zero j)⟩
  · -- the middle element of a decomposition of the enumerated list sits at its own index
    obtain ⟨hi1, hi2⟩ := (enum_getElem? (c0 :: rest) pre.length ic).1 (by rw [e1, List.getElem?_append_right (Nat.le_refl _), Nat.sub_self]; rfl)
    obtain ⟨hi, hget⟩ := List.getElem?_eq_some_iff.1 hi2
    refine ⟨pre.length, hi, Prod.ext (e2.trans hi1) (h1.trans (by rw [e3, hget])), ?_, ?_⟩
    · intro c hc; rw [hget, ← e3]; exact hall c hc
    · intro j hj
      have := (enum_getElem? (c0 :: rest) j pre[j]).1
        (by rw [e1, List.getElem?_append_left hj, List.getElem?_eq_getElem hj])
      obtain ⟨_, hg⟩ := List.getElem?_eq_some_iff.1 this.2
      rw [hget, ← e3, hg]
      exact e4 _ (List.getElem_mem hj)

theorem scan_min (c0 : Int) (rest : List Int) :
    ∃ m, (scan (c0 :: rest)).2 = some m ∧ (∀ c ∈ c0 :: rest, m ≤ c) ∧ m ∈ c0 :: rest := by
  obtain ⟨i, hi, hs, hmin, _⟩ := scan_spec (c0 :: rest) (List.cons_ne_nil _ _)
  exact ⟨_, by rw [hs], hmin, List.getElem_mem hi⟩

end P.Argmin
