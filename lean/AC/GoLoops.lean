import AC.GoAlg
/-! # Loop shapes of the translated Go functions

A translated `for k := k0; k < N; k++` is a structurally recursive function of a fuel counter, the `Int`
loop variable and the state; its tie to a model is always "one round is one model step, so the loop is the
fold over the positions". That induction, with its cast bookkeeping, is `countLoop`. The models' folds write
with `set` and read with `getD`; what a pass over a range of positions leaves behind is `getD_foldl_set`. -/
namespace AC.GoPrim

theorem foldl_range'_inv {σ} (f : σ → Nat → σ) (Inv : Nat → σ → Prop) (N : Nat)
    (hinv : ∀ k s, k < N → Inv k s → Inv (k + 1) (f s k)) :
    ∀ n k s, k + n ≤ N → Inv k s → Inv (k + n) ((List.range' k n).foldl f s) := by
  intro n
  induction n with
  | zero => intro k s _ h; exact h
  | succ n ih =>
    intro k s hk h
    have hk' : k + 1 + n ≤ N := Nat.add_right_comm k 1 n ▸ hk
    rw [List.range'_succ, List.foldl_cons, ← Nat.add_assoc, Nat.add_right_comm]
    exact ih (k + 1) _ hk' (hinv k s (Nat.lt_of_lt_of_le (Nat.lt_succ_of_le (Nat.le_add_right k n)) hk) h)

/-- a counting loop `F fuel k state` over positions below `N` whose round at `k` is the step `f · k` -/
theorem countLoop {σ ρ} (F : Nat → Int → σ → ρ) (f : σ → Nat → σ) (Inv : σ → Prop) (N : Nat)
    (hinv : ∀ k s, Inv s → Inv (f s k))
    (hstep : ∀ n k s, Inv s → k < N → F (n + 1) (k : Int) s = F n ((k : Int) + 1) (f s k)) :
    ∀ n k s, Inv s → k + n ≤ N → F n (k : Int) s = F 0 ((k + n : Nat) : Int) ((List.range' k n).foldl f s) := by
  intro n
  induction n with
  | zero => intro k s _ _; rfl
  | succ n ih =>
    intro k s hs hk
    have hk' : k + 1 + n ≤ N := Nat.add_right_comm k 1 n ▸ hk
    rw [hstep n k s hs (Nat.lt_of_lt_of_le (Nat.lt_succ_of_le (Nat.le_add_right k n)) hk), ← Int.natCast_add_one,
      ih (k + 1) _ (hinv k s hs) hk', List.range'_succ, List.foldl_cons, Nat.add_right_comm k 1 n]
    rfl

theorem appendLoop {α ρ} (F : Nat → Int → List α → ρ) (g : Nat → α) (N : Nat)
    (hstep : ∀ n k ks, k < N → F (n + 1) (k : Int) ks = F n ((k : Int) + 1) (ks ++ [g k])) (n k : Nat)
    (ks : List α) (hk : k + n ≤ N) : F n (k : Int) ks = F 0 ((k + n : Nat) : Int) (ks ++ (List.range' k n).map g) := by
  rw [countLoop F (fun ks k => ks ++ [g k]) (fun _ => True) N (fun _ _ _ => trivial)
    (fun n k ks _ => hstep n k ks) n k ks trivial hk]
  congr 1
  clear hk
  induction n generalizing k ks with
  | zero => simp
  | succ n ih => rw [List.range'_succ, List.foldl_cons, ih, List.map_cons, List.append_assoc]; rfl

theorem foldl_range'_last {σ} (f : σ → Nat → σ) (s : σ) (l n : Nat) :
    (List.range' l (n + 1)).foldl f s = f ((List.range' l n).foldl f s) (l + n) := by
  simp [List.range'_concat]

theorem getD_set_self {α} (l : List α) (i : Nat) (v d : α) (h : i < l.length) : (l.set i v).getD i d = v := by
  simp [List.getD_eq_getElem?_getD, h]

theorem getD_set_ne {α} (l : List α) {i j : Nat} (v d : α) (h : i ≠ j) : (l.set i v).getD j d = l.getD j d := by
  simp [List.getD_eq_getElem?_getD, List.getElem?_set_ne h]

theorem ext_getD {α} (d : α) {l₁ l₂ : List α} (hl : l₁.length = l₂.length)
    (h : ∀ j, j < l₁.length → l₁.getD j d = l₂.getD j d) : l₁ = l₂ := by
  apply List.ext_getElem hl
  intro j h1 h2
  simpa [List.getD_eq_getElem?_getD, h1, h2] using h j h1

theorem getD_replicate {α} (n j : Nat) (d : α) : (List.replicate n d).getD j d = d := by
  rw [List.getD_eq_getElem?_getD, List.getElem?_replicate]; split <;> rfl

theorem getD_map_range {α} (f : Nat → α) (d : α) {n j : Nat} (h : j < n) : ((List.range n).map f).getD j d = f j := by
  simp [List.getD_eq_getElem?_getD, h]

theorem length_foldl_set {α} (v : List α → Nat → α) (T : List α) (l n : Nat) :
    ((List.range' l n).foldl (fun T j => T.set j (v T j)) T).length = T.length :=
  foldl_range'_inv _ (fun _ S => S.length = T.length) (l + n) (fun _ _ _ h => by simpa using h) n l T
    (Nat.le_refl _) rfl

theorem getD_foldl_set {α} (h : Nat → α → α) (d : α) (T : List α) (l : Nat) : ∀ n, l + n ≤ T.length → ∀ j,
    ((List.range' l n).foldl (fun T j => T.set j (h j (T.getD j d))) T).getD j d =
      if l ≤ j ∧ j < l + n then h j (T.getD j d) else T.getD j d := by
  intro n
  induction n with
  | zero => intro _ j; exact (if_neg fun h => Nat.not_lt.2 h.1 h.2).symm
  | succ n ih =>
    intro hb j
    have hlen := length_foldl_set (fun T j => h j (T.getD j d)) T l n
    rw [foldl_range'_last]
    by_cases hj : l + n = j
    · subst hj
      rw [getD_set_self _ _ _ _ (hlen ▸ hb), ih (Nat.le_of_succ_le hb), if_neg fun h => Nat.lt_irrefl _ h.2,
        if_pos ⟨Nat.le_add_right l n, Nat.lt_succ_self _⟩]
    · have : (l ≤ j ∧ j < l + (n + 1)) ↔ (l ≤ j ∧ j < l + n) :=
        and_congr_right fun _ => ⟨fun h => Nat.lt_of_le_of_ne (Nat.le_of_lt_succ h) (Ne.symm hj), Nat.lt_succ_of_lt⟩
      rw [getD_set_ne _ _ _ hj, ih (Nat.le_of_succ_le hb)]
      simp only [this]

theorem filter_le_range (N i : Nat) :
    (List.range N).filter (fun j => decide (i ≤ j)) = List.range' i (N - i) := by
  induction N with
  | zero => rw [Nat.zero_sub]; rfl
  | succ N ih =>
    rw [List.range_succ, List.filter_append, ih]
    by_cases h : i ≤ N
    · rw [Nat.succ_sub h, List.range'_concat, Nat.one_mul, Nat.add_sub_cancel' h]
      simp [h]
    · have h' := Nat.lt_of_not_le h
      rw [Nat.sub_eq_zero_of_le h', Nat.sub_eq_zero_of_le (Nat.le_of_lt h')]
      simp [h]

end AC.GoPrim
