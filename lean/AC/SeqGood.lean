import AC.SeqAlg
/-! What the sequence algorithms deliver to the chain-algorithm assembly: a valid, strictly
    ascending chain containing every target whose elements do not exceed the largest target;
    for a single target it therefore ends there (`Execute` compares the end with the target). -/
namespace P

/-- `FindSequence` with an explicit fuel for the continued-fraction recursion (heuristics carry their own, provably sufficient fuel) -/
def SeqAlg.findF (fuel : Nat) : SeqAlg → List Int → Option (List Int)
  | .heuristic h, ts => (SeqAlg.heuristic h).find ts
  | .contfrac s, ts => chain s fuel (ts.mergeSort (fun a b => a ≤ b))

theorem SeqAlg.findF_mono (s : SeqAlg) (f k : Nat) (T c : List Int)
    (h : s.findF f T = some c) : s.findF (f + k) T = some c := by
  cases s with
  | heuristic hh => exact h
  | contfrac st => exact chain_mono_add st f k _ c h

theorem SeqAlg.find_findF (s : SeqAlg) (T c : List Int) (h : s.find T = some c) :
    ∃ f, s.findF f T = some c := by
  cases s with
  | heuristic hh => exact ⟨0, h⟩
  | contfrac st => exact cfSearch_some st _ c 12 64 h

/-- what a sequence algorithm hands to the chain assembly: a valid ascending chain through the
    targets `T`, bounded by `M` -/
structure SeqAlg.Good (T : List Int) (M : Int) (c : List Int) : Prop where
  chain : IsChain c
  asc : c.Pairwise (· < ·)
  sup : ∀ x ∈ T, x ∈ c
  le : ∀ x ∈ c, x ≤ M

theorem SeqAlg.good_heuristic (h : Heur) (ht : h.isTotal = true) (T : List Int) (hpos : ∀ x ∈ T, 1 ≤ x)
    (M : Int) (hM : ∀ x ∈ T, x ≤ M) (_hMT : M ∈ T) (h2 : 2 ≤ M ∨ T = [1]) :
    ∃ c, (∀ f, (SeqAlg.heuristic h).findF f T = some c) ∧ SeqAlg.Good T M c := by
  obtain ⟨c, h1, _⟩ := findSequence_total h.suggest h.sound (h.total ht) T hpos _ (Nat.le_refl _)
  obtain ⟨hasc, hch, hsup⟩ := findSequence_spec h.suggest h.sound _ T c hpos h1
  exact ⟨c, fun _ => h1, ⟨hch, hasc, hsup, findSequence_bound h.suggest h.sound _ T c M hpos hM h2 h1⟩⟩

theorem SeqAlg.good_contfrac (s : Strategy) (T : List Int) (hne : T ≠ []) (hpos : ∀ x ∈ T, 1 ≤ x)
    (M : Int) (hM : ∀ x ∈ T, x ≤ M) (_hMT : M ∈ T) :
    ∃ F c, (∀ f, F ≤ f → (SeqAlg.contfrac s).findF f T = some c) ∧ SeqAlg.Good T M c := by
  obtain ⟨F, c, hc, hg⟩ := contfrac_total s (stratOK_all s) T hne hpos
  obtain ⟨ht, hmem⟩ := targets_mergeSort T hne hpos
  refine ⟨F, c, fun f hf => (cf_mono_le s hf).2.2 _ c hc, hg.good.isChain, hg.good.asc,
    fun x hx => hg.sup x ((hmem x).2 hx), fun x hx => ?_⟩
  -- the chain ends at the largest target
  have h1 := le_getLastD c (hg.good.asc.imp Int.le_of_lt) x hx
  rw [hg.last] at h1
  exact Int.le_trans h1 (hM _ ((hmem _).1 (getLastD_mem _ ht.ne)))

/-- a total heuristic composition used as a chain algorithm: succeeds with an ascending valid
    chain ending at the target -/
theorem heuristic_asChain (h : Heur) (ht : h.isTotal = true) (n : Nat) (hn : 1 ≤ n) :
    ∃ c, (SeqAlg.heuristic h).find [(n : Int)] = some c ∧ IsChain c ∧ c.getLast? = some (n : Int) := by
  obtain ⟨c, h1, g⟩ := SeqAlg.good_heuristic h ht [(n : Int)]
    (List.forall_mem_singleton.2 (by omega)) n (List.forall_mem_singleton.2 (Int.le_refl _))
    (List.mem_singleton_self _) (by
      rcases Nat.eq_or_lt_of_le hn with rfl | h2
      · exact Or.inr rfl
      · exact Or.inl (by omega))
  exact ⟨c, h1 0, g.chain, last_of_bound c n g.asc (g.sup _ (List.mem_singleton_self _)) g.le⟩

end P
