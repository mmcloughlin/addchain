import AC.ChainTie
import AC.RunsX
/-! # The translated `dict.RunsChain` equals the model `P.runsChainX` (C11 translator tie)

`dictRunsChain` of `AC/Gen/ProgramFns.lean` is regenerated from alg/dict/runs.go on every run. The Go
function calls `Chain.Program` (tied by `program_tie`), keeps the largest shift per run length in a
`map[uint]uint` (a function `Nat → Nat` in the translation) and extends the chain in a loop
`for ; s[lb] < la; s[lb]++`. -/
namespace AC.RunsTie
open AC.Gen.Program AC.GoPrim AC.BigPrim AC.ProgramTie AC.ChainTie P

theorem program_ops_lt (c : Chain) (p : List Op) (h : program c = .ok p) :
    ∀ o ∈ p, o.1 < c.length ∧ o.2 < c.length := by
  obtain ⟨hlen, hmem⟩ := program_spec c p h
  intro o ho
  obtain ⟨k, hk, rfl⟩ := List.getElem_of_mem ho
  have hk' : k + 1 < c.length := hlen ▸ Nat.succ_lt_succ hk
  obtain ⟨hij, hj, _⟩ := (mem_ops c (k + 1) _ _ hk').1 (hmem k hk)
  exact ⟨Nat.lt_trans (Nat.lt_of_le_of_lt hij hj) hk', Nat.lt_trans hj hk'⟩

theorem ones_eq (n : Nat) : AC.Gen.Bigint.ones n = onesI n := by
  rw [AC.BigintTie.ones_eq]; unfold onesI P.HX.maskI
  simp

theorem extend_loop_tie (rb : Int) (lb : Nat) : ∀ (m : Nat) (c : List Int) (s : Nat → Nat)
    (lc : List Int) (p : List GOp) (err : Option GoErr) (op : GOp) (a b : Int) (la : Nat),
    dictRunsChain_loop2 m lc p err c s op a b la lb rb =
      some (extend rb m (s lb) c, fun x => if x = lb then s lb + m else s x) := by
  intro m
  induction m with
  | zero =>
    intro c s lc p err op a b la
    refine congrArg (fun f => some (c, f)) (funext fun x => ?_)
    by_cases hx : x = lb
    · rw [if_pos hx, hx]; rfl
    · rw [if_neg hx]
  | succ m ih =>
    intro c s lc p err op a b la
    simp only [dictRunsChain_loop2, extend, bLsh, beq_iff_eq, ih, if_pos]
    refine congrArg (fun f => some (_, f)) (funext fun x => ?_)
    by_cases hx : x = lb
    · rw [if_pos hx, if_pos hx, Nat.add_assoc, Nat.add_comm 1 m]
    · rw [if_neg hx, if_neg hx, if_neg hx]

def tooLarge : Option GoErr := some ("values in lengths chain are far too large", [])

theorem minMax_pair (x y : Int) : AC.Gen.Bigint.minMax x y = (min x y, max x y) := by
  rw [AC.BigintTie.minMax_eq x y]
  exact Prod.ext (P.HX.minMax_spec x y).1 (P.HX.minMax_spec x y).2

theorem bIsUint64_eq (x : Int) : bIsUint64 x = isUint64 x := rfl

theorem isUint64_min_max (x y : Int) : (isUint64 (min x y) && isUint64 (max x y)) = (isUint64 x && isUint64 y) := by
  by_cases h : x ≤ y
  · rw [Int.min_eq_left h, Int.max_eq_right h]
  · have h' : y ≤ x := Int.le_of_lt (Int.not_le.1 h)
    rw [Int.min_eq_right h', Int.max_eq_left h', Bool.and_comm]

theorem goUint64_ok (x : Int) (h : isUint64 x = true) : goUint64 x = some x.toNat := by
  unfold isUint64 at h
  simp only [Bool.and_eq_true, decide_eq_true_eq] at h
  unfold goUint64
  rw [if_pos h]

theorem add_sub_eq_max (s m : Nat) : s + (m - s) = max s m :=
  (Nat.add_comm _ _).trans ((Nat.sub_add_eq_max m s).trans (Nat.max_comm m s))

theorem outer_loop_tie (lc : Chain) (P0 : List GOp) (err : Option GoErr) : ∀ (q : List Op) (c : List Int) (s : Nat → Nat),
    (∀ o ∈ q, o.1 < lc.length ∧ o.2 < lc.length) →
    dictRunsChain_loop1 (toGs q) lc P0 err c s =
      some (if q.all (fun o => isUint64 (at' lc o.1) && isUint64 (at' lc o.2)) then
        ((q.foldl (runsStep lc) ⟨c, s⟩).c, none) else ([], tooLarge)) := by
  intro q
  induction q with
  | nil => intro c s _; rfl
  | cons o q ih =>
    intro c s hr
    obtain ⟨h1, h2⟩ := hr o List.mem_cons_self
    simp only [toGs_cons, toG, dictRunsChain_loop1, idx_at' lc _ h1, idx_at' lc _ h2, minMax_pair, bIsUint64_eq,
      ← Bool.not_and, isUint64_min_max, Option.bind_eq_bind, Option.bind_some, List.all_cons, List.foldl_cons]
    rcases Bool.eq_false_or_eq_true (isUint64 (at' lc o.1) && isUint64 (at' lc o.2)) with hok | hok
    · obtain ⟨hmin, hmax⟩ := Bool.and_eq_true_iff.1 ((isUint64_min_max _ _).trans hok)
      simp only [hok, Bool.true_and, Bool.not_true, Bool.false_eq_true, if_false, goUint64_ok _ hmin,
        goUint64_ok _ hmax, extend_loop_tie, ones_eq, add_sub_eq_max, Option.bind_some]
      exact ih _ _ fun o' ho' => hr o' (List.mem_cons_of_mem _ ho')
    · simp only [hok]; rfl

/-- **`dict.RunsChain` as translated from runs.go equals the model**: it never panics; for a lengths chain
    that is not an addition chain it returns a nil chain and some error (which one is not stated), for one
    with a value outside a machine word the "far too large" error, and otherwise the model's chain of runs -/
theorem runsChain_tie (lc : Chain) : ∃ r, dictRunsChain lc = some r ∧
    (match runsChainX lc with
     | .ok c => r = (c, none)
     | .error .invalid => r.1 = [] ∧ r.2.isSome = true
     | .error .tooLarge => r = ([], tooLarge)) := by
  obtain ⟨⟨g, e⟩, hr0, hm⟩ := program_tie lc
  unfold dictRunsChain runsChainX
  simp only [hr0, bind, Option.bind]
  cases hp : program lc with
  | error e =>
    rw [hp] at hm
    obtain ⟨rfl, args, rfl⟩ := hm
    exact ⟨_, rfl, rfl, rfl⟩
  | ok p =>
    rw [hp] at hm
    have hr := program_ops_lt lc p hp
    have hloop := outer_loop_tie lc (toGs p) none p [1] (fun _ => 0) hr
    have hnew : fnNew = some [1] := rfl
    cases hm
    simp only [Option.isSome_none, Bool.false_eq_true, if_false, hnew, hloop]
    by_cases hall : p.all (fun o => isUint64 (at' lc o.1) && isUint64 (at' lc o.2)) = true
    · rw [if_pos hall, if_pos hall]; exact ⟨_, rfl, rfl⟩
    · rw [if_neg hall, if_neg hall]; exact ⟨_, rfl, rfl⟩

end AC.RunsTie
