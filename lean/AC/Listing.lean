/-! C06 prototype: the listing format read back literally. -/
namespace P.Listing

/-- split a character list at every occurrence of `sep` -/
def splitAt (sep : Char) : List Char → List (List Char)
  | [] => [[]]
  | c :: r =>
    if c = sep then [] :: splitAt sep r
    else match splitAt sep r with
      | [] => [[c]]
      | f :: fs => (c :: f) :: fs

def joinWith (sep : Char) : List (List Char) → List Char
  | [] => []
  | [f] => f
  | f :: g :: r => f ++ sep :: joinWith sep (g :: r)

theorem splitAt_nosep (sep : Char) : ∀ (f : List Char), sep ∉ f → splitAt sep f = [f] := by
  intro f
  induction f with
  | nil => intro _; rfl
  | cons c r ih =>
    intro h
    have hc : c ≠ sep := fun e => h (by simp [e])
    have hr : sep ∉ r := fun e => h (by simp [e])
    simp [splitAt, hc, ih hr]

theorem splitAt_append (sep : Char) : ∀ (f rest : List Char), sep ∉ f →
    splitAt sep (f ++ sep :: rest) = f :: splitAt sep rest := by
  intro f
  induction f with
  | nil => intro rest _; simp [splitAt]
  | cons c r ih =>
    intro rest h
    have hc : c ≠ sep := fun e => h (by simp [e])
    have hr : sep ∉ r := fun e => h (by simp [e])
    simp [splitAt, hc, ih rest hr]

theorem splitAt_ne_nil (sep : Char) : ∀ (l : List Char), splitAt sep l ≠ [] := by
  intro l
  induction l with
  | nil => exact List.cons_ne_nil _ _
  | cons c r ih =>
    unfold splitAt
    split
    · exact List.cons_ne_nil _ _
    · cases h : splitAt sep r with
      | nil => exact absurd h ih
      | cons f fs => exact List.cons_ne_nil _ _

theorem splitAt_line (sep : Char) (f rest : List Char) (h : sep ∉ f) :
    (splitAt sep (f ++ sep :: rest)).dropLast = f :: (splitAt sep rest).dropLast := by
  rw [splitAt_append sep f rest h]
  cases hs : splitAt sep rest with
  | nil => exact absurd hs (splitAt_ne_nil sep rest)
  | cons b r => rfl

theorem split_join (sep : Char) : ∀ (fs : List (List Char)), fs ≠ [] → (∀ f ∈ fs, sep ∉ f) →
    splitAt sep (joinWith sep fs) = fs := by
  intro fs
  induction fs with
  | nil => intro h; exact absurd rfl h
  | cons f r ih =>
    intro _ h
    cases r with
    | nil => exact splitAt_nosep sep f (h f List.mem_cons_self)
    | cons g r' =>
      simp only [joinWith]
      rw [splitAt_append sep f _ (h f List.mem_cons_self),
        ih (List.cons_ne_nil g r') (fun x hx => h x (List.mem_cons_of_mem _ hx))]

theorem splitAt_trailing (sep : Char) : ∀ (fs : List (List Char)), fs ≠ [] → (∀ f ∈ fs, sep ∉ f) →
    (splitAt sep (joinWith sep fs ++ [sep])).dropLast = fs := by
  intro fs
  induction fs with
  | nil => intro hne; exact absurd rfl hne
  | cons f r ih =>
    intro _ h
    cases r with
    | nil => exact splitAt_line sep f [] (h f List.mem_cons_self)
    | cons g r' =>
      simp only [joinWith, List.cons_append, List.append_assoc]
      rw [splitAt_line sep f _ (h f List.mem_cons_self),
        ih (List.cons_ne_nil g r') (fun x hx => h x (List.mem_cons_of_mem _ hx))]

theorem mem_joinWith (sep c : Char) : ∀ (fs : List (List Char)), c ∈ joinWith sep fs → c = sep ∨ ∃ f ∈ fs, c ∈ f := by
  intro fs
  induction fs with
  | nil => intro h; cases h
  | cons f r ih =>
    intro h
    cases r with
    | nil => exact Or.inr ⟨f, List.mem_cons_self, h⟩
    | cons g r' =>
      simp only [joinWith, List.mem_append, List.mem_cons] at h
      rcases h with h | h | h
      · exact Or.inr ⟨f, List.mem_cons_self, h⟩
      · exact Or.inl h
      · exact (ih h).imp_right fun ⟨f', hf', hc⟩ => ⟨f', List.mem_cons_of_mem _ hf', hc⟩

inductive Op | add (x y : List Char) | dbl (x : List Char) | shl (x : List Char) (s : Nat)
deriving DecidableEq
structure Line where
  out : List Char
  op : Op
deriving DecidableEq

def natStr (n : Nat) : List Char := Nat.toDigits 10 n

def renderLine (l : Line) : List Char :=
  match l.op with
  | .add x y => joinWith '\t' ["add".toList, l.out, x, y]
  | .dbl x => joinWith '\t' ["double".toList, l.out, x]
  | .shl x s => joinWith '\t' ["shift".toList, l.out, x, natStr s]

def readNat (ds : List Char) : Option Nat :=
  if ds ≠ [] ∧ ds.all Char.isDigit then some (Nat.ofDigitChars 10 ds 0) else none

def readLine (fs : List (List Char)) : Option Line :=
  match fs with
  | [k, o, x, y] =>
    if k = "add".toList then some ⟨o, .add x y⟩
    else if k = "shift".toList then (readNat y).map (fun s => ⟨o, .shl x s⟩)
    else none
  | [k, o, x] => if k = "double".toList then some ⟨o, .dbl x⟩ else none
  | _ => none

def NameOK (n : List Char) : Prop := '\t' ∉ n ∧ '\n' ∉ n

theorem natStr_digit (s : Nat) : ∀ c ∈ natStr s, c.isDigit = true := fun _ hc =>
  Nat.isDigit_of_mem_toDigits (by omega) (by omega) hc

theorem readNat_natStr (s : Nat) : readNat (natStr s) = some s := by
  unfold readNat
  rw [if_pos ⟨Nat.toDigits_ne_nil, List.all_eq_true.mpr (natStr_digit s)⟩]
  exact congrArg some (Nat.ofDigitChars_ten_toDigits ..)

theorem natStr_ok (s : Nat) : NameOK (natStr s) :=
  ⟨fun h => absurd (natStr_digit s _ h) (by decide), fun h => absurd (natStr_digit s _ h) (by decide)⟩

/-- the tab-separated fields of an instruction line -/
def fields (l : Line) : List (List Char) :=
  match l.op with
  | .add x y => ["add".toList, l.out, x, y]
  | .dbl x => ["double".toList, l.out, x]
  | .shl x s => ["shift".toList, l.out, x, natStr s]

theorem renderLine_eq (l : Line) : renderLine l = joinWith '\t' (fields l) := by
  obtain ⟨o, op⟩ := l
  cases op <;> rfl

theorem readLine_fields (l : Line) : readLine (fields l) = some l := by
  obtain ⟨o, op⟩ := l
  cases op with
  | add x y => simp only [fields, readLine, ↓reduceIte]
  | dbl x => simp only [fields, readLine, ↓reduceIte]
  | shl x s =>
    have h1 : ¬ "shift".toList = "add".toList := by simp
    simp only [fields, readLine, h1, ↓reduceIte, readNat_natStr, Option.map_some]

theorem fields_ok (l : Line) (ho : NameOK l.out)
    (hx : match l.op with | .add x y => NameOK x ∧ NameOK y | .dbl x => NameOK x | .shl x _ => NameOK x) :
    ∀ f ∈ fields l, NameOK f := by
  obtain ⟨o, op⟩ := l
  cases op with
  | add x y => simp only [fields, List.forall_mem_cons]; exact ⟨by simp [NameOK], ho, hx.1, hx.2, nofun⟩
  | dbl x => simp only [fields, List.forall_mem_cons]; exact ⟨by simp [NameOK], ho, hx, nofun⟩
  | shl x s => simp only [fields, List.forall_mem_cons]; exact ⟨by simp [NameOK], ho, hx, natStr_ok s, nofun⟩

theorem readLine_render (l : Line) (ho : NameOK l.out)
    (hx : match l.op with | .add x y => NameOK x ∧ NameOK y | .dbl x => NameOK x | .shl x _ => NameOK x) :
    readLine (splitAt '\t' (renderLine l)) = some l := by
  rw [renderLine_eq, split_join '\t' _ _ (fun f hf => (fields_ok l ho hx f hf).1)]
  · exact readLine_fields l
  · obtain ⟨o, op⟩ := l
    cases op <;> exact List.cons_ne_nil _ _

def tmpLine (tmps : List (List Char)) : List Char := joinWith '\t' ("tmp".toList :: tmps)

/-- listing.tmpl: the `tmp` line, then one line per instruction, each terminated by a newline -/
def renderListing (tmps : List (List Char)) (ls : List Line) : List Char :=
  joinWith '\n' (tmpLine tmps :: ls.map renderLine) ++ ['\n']

def readTmp (fs : List (List Char)) : Option (List (List Char)) :=
  match fs with
  | k :: r => if k = "tmp".toList then some (r.filter (· ≠ [])) else none
  | [] => none

def readAll : List (List Char) → Option (List Line)
  | [] => some []
  | l :: r => match readLine (splitAt '\t' l), readAll r with
    | some x, some xs => some (x :: xs)
    | _, _ => none

/-- the documented reading: split into lines (the text ends with a newline), first line declares
    the temporaries, the others are instructions -/
def readListing (s : List Char) : Option (List (List Char) × List Line) :=
  match (splitAt '\n' s).dropLast with
  | [] => none
  | t :: r => match readTmp (splitAt '\t' t), readAll r with
    | some tm, some ls => some (tm, ls)
    | _, _ => none

def LineOK (l : Line) : Prop :=
  NameOK l.out ∧ match l.op with | .add x y => NameOK x ∧ NameOK y | .dbl x => NameOK x | .shl x _ => NameOK x

theorem joinWith_nonl (fs : List (List Char)) (h : ∀ f ∈ fs, NameOK f) : '\n' ∉ joinWith '\t' fs := by
  intro hm
  rcases mem_joinWith '\t' '\n' _ hm with h' | ⟨f, hf, hc⟩
  · cases h'
  · exact (h f hf).2 hc

theorem readAll_render : ∀ (ls : List Line), (∀ l ∈ ls, LineOK l) → readAll (ls.map renderLine) = some ls := by
  intro ls
  induction ls with
  | nil => intro _; rfl
  | cons l r ih =>
    intro h
    obtain ⟨ho, hx⟩ := h l List.mem_cons_self
    simp only [List.map_cons, readAll, readLine_render l ho hx, ih (fun x hx' => h x (List.mem_cons_of_mem _ hx'))]

/-- a listing whose first line `t` reads as the declaration of `tm` reads back, whatever `t` is -/
theorem readListing_lines (t : List Char) (tm : List (List Char)) (ls : List Line) (ht : '\n' ∉ t)
    (htm : readTmp (splitAt '\t' t) = some tm) (hl : ∀ l ∈ ls, LineOK l) :
    readListing (joinWith '\n' (t :: ls.map renderLine) ++ ['\n']) = some (tm, ls) := by
  unfold readListing
  rw [splitAt_trailing '\n' _ (List.cons_ne_nil _ _) (List.forall_mem_cons.mpr ⟨ht, fun f hf => by
    obtain ⟨l, hlm, rfl⟩ := List.mem_map.mp hf
    exact renderLine_eq l ▸ joinWith_nonl _ (fields_ok l (hl l hlm).1 (hl l hlm).2)⟩)]
  simp only [htm, readAll_render ls hl]

theorem readListing_render (tmps : List (List Char)) (ls : List Line)
    (ht : ∀ t ∈ tmps, NameOK t ∧ t ≠ []) (hl : ∀ l ∈ ls, LineOK l) :
    readListing (renderListing tmps ls) = some (tmps, ls) := by
  refine readListing_lines _ tmps ls
    (joinWith_nonl _ (List.forall_mem_cons.mpr ⟨by simp [NameOK], fun t h => (ht t h).1⟩)) ?_ hl
  unfold tmpLine
  rw [split_join '\t' _ (List.cons_ne_nil _ _)
    (List.forall_mem_cons.mpr ⟨by simp, fun f hf => (ht f hf).1.1⟩)]
  simp only [readTmp, if_true]
  exact congrArg some (List.filter_eq_self.mpr fun t h => by simpa using (ht t h).2)

end P.Listing
