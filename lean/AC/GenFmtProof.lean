import AC.GenX
/-! C06: the `chain` and `ops` template outputs, read in the documented formats, list exactly the
chain elements / operations that were rendered. -/
namespace AC.GenX
open P.Listing

theorem hexv_digitChar : ∀ d, d < 16 → hexv (Nat.digitChar d) = d ∧ isHexChar (Nat.digitChar d) = true := by
  decide

def hexFold (ds : List Char) : Nat := ds.foldl (fun a c => a * 16 + hexv c) 0

theorem hexFold_snoc (ds : List Char) (c : Char) : hexFold (ds ++ [c]) = hexFold ds * 16 + hexv c := by
  simp [hexFold, List.foldl_append]

theorem hex_roundtrip : ∀ (n : Nat), hexFold (Nat.toDigits 16 n) = n ∧ (Nat.toDigits 16 n).all isHexChar = true := by
  intro n
  induction n using Nat.strongRecOn with
  | _ n ih =>
    rw [Nat.toDigits_eq_if (by omega : 1 < 16)]
    split
    · rename_i h
      obtain ⟨h1, h2⟩ := hexv_digitChar n h
      simp [hexFold, h1, h2]
    · rename_i h
      obtain ⟨i1, i2⟩ := ih (n / 16) (Nat.div_lt_self (Nat.lt_of_lt_of_le (by decide) (Nat.le_of_not_lt h)) (by decide))
      obtain ⟨h1, h2⟩ := hexv_digitChar (n % 16) (Nat.mod_lt _ (by omega))
      refine ⟨?_, ?_⟩
      · rw [hexFold_snoc, i1, h1]; exact Nat.div_add_mod' n 16
      · rw [List.all_append, i2]; simp [h2]

theorem readHex0x_hex0x (v : Nat) : readHex0x (hex0x v) = some v := by
  obtain ⟨h1, h2⟩ := hex_roundtrip v
  have hne : Nat.toDigits 16 v ≠ [] := Nat.toDigits_ne_nil
  simp only [hex0x, readHex0x, hne, h2, ne_eq, not_false_eq_true, and_self, if_true]
  exact congrArg some h1

theorem dec_digits (m : Nat) : ∀ c ∈ dec m, c.isDigit = true := natStr_digit m

theorem dec_ne_nil (m : Nat) : dec m ≠ [] := Nat.toDigits_ne_nil

theorem skipSp_replicate (k : Nat) (c : Char) (rest : List Char) (hc : c ≠ ' ') :
    skipSp (List.replicate k ' ' ++ c :: rest) = c :: rest := by
  unfold skipSp
  rw [List.dropWhile_append_of_pos (fun a ha => by simp [(List.mem_replicate.mp ha).2]),
    List.dropWhile_cons_of_neg (by simpa using hc)]

theorem skipSp_padLeft (w m : Nat) (rest : List Char) :
    skipSp (padLeft w (dec m) ++ rest) = dec m ++ rest := by
  unfold padLeft
  rw [List.append_assoc]
  cases h : dec m with
  | nil => exact absurd h (dec_ne_nil m)
  | cons d ds =>
    have hd : d.isDigit = true := dec_digits m d (h ▸ List.mem_cons_self)
    exact skipSp_replicate _ d _ (fun e => by rw [e] at hd; exact absurd hd (by decide))

theorem take_digits (m : Nat) (c : Char) (rest : List Char) (hc : c.isDigit = false) :
    (dec m ++ c :: rest).takeWhile Char.isDigit = dec m := by
  rw [List.takeWhile_append_of_pos (dec_digits m), List.takeWhile_cons_of_neg (by simp [hc])]
  simp

theorem drop_digits (m : Nat) (c : Char) (rest : List Char) (hc : c.isDigit = false) :
    (dec m ++ c :: rest).dropWhile Char.isDigit = c :: rest := by
  rw [List.dropWhile_append_of_pos (dec_digits m), List.dropWhile_cons_of_neg (by simp [hc])]

theorem readNat_dec (m : Nat) : readNat (dec m) = some m := readNat_natStr m

def chainBody (n v : Nat) : List Char := padLeft 3 (dec (n + 1)) ++ (':' :: ' ' :: hex0x v)

theorem chainLine_eq (n v : Nat) : chainLine n v = chainBody n v ++ ['\n'] := by
  simp [chainLine, chainBody, hex0x]

theorem readChainLine_body (n v : Nat) : readChainLine (chainBody n v) = some (n + 1, v) := by
  -- field by field: blanks skipped, digits taken up to the delimiter `:`, the number read
  have colon : ':'.isDigit = false := by decide
  simp only [readChainLine, chainBody, skipSp_padLeft, drop_digits _ _ _ colon, take_digits _ _ _ colon,
    readNat_dec, readHex0x_hex0x]

/-- an `ops` line without its newline; the blanks that pad `j` on the right are written after the first one,
    which ends the digits of `j` -/
def opsBody (n i j v : Nat) : List Char :=
  '[' :: (padLeft 3 (dec n) ++ (']' :: ' ' :: (padLeft 4 (dec i) ++ ('+' :: (dec j ++
    (' ' :: (List.replicate (4 - (dec j).length) ' ' ++ hex0x v)))))))

theorem replicate_append_cons {α} (k : Nat) (a : α) (l : List α) :
    List.replicate k a ++ a :: l = a :: (List.replicate k a ++ l) := by
  rw [List.append_cons, ← List.replicate_succ', List.replicate_succ, List.cons_append]

theorem opsLine_eq (n i j v : Nat) : opsLine n i j v = opsBody n i j v ++ ['\n'] := by
  simp [opsLine, opsBody, padRight, replicate_append_cons]

theorem skipSp_blank (l : List Char) : skipSp (' ' :: l) = skipSp l := rfl

theorem skipSp_hex0x (k v : Nat) : skipSp (List.replicate k ' ' ++ hex0x v) = hex0x v :=
  skipSp_replicate k '0' _ (by decide)

theorem readOpsLine_body (n i j v : Nat) : readOpsLine (opsBody n i j v) = some (n, i, j, v) := by
  -- field by field as in `readChainLine_body`; the delimiters are `]`, `+` and the blank after `j`
  have bracket : ']'.isDigit = false := by decide
  have plus : '+'.isDigit = false := by decide
  have blank : ' '.isDigit = false := by decide
  simp only [readOpsLine, opsBody, skipSp_padLeft, drop_digits _ _ _ bracket, take_digits _ _ _ bracket,
    drop_digits _ _ _ plus, take_digits _ _ _ plus, drop_digits _ _ _ blank, take_digits _ _ _ blank,
    skipSp_blank, skipSp_hex0x, readNat_dec, readHex0x_hex0x]

theorem hex_nonl (v : Nat) : '\n' ∉ hex0x v := by
  intro h
  rcases List.mem_cons.mp h with h | h
  · exact absurd h (by decide)
  · rcases List.mem_cons.mp h with h | h
    · exact absurd h (by decide)
    · exact absurd (List.all_eq_true.mp (hex_roundtrip v).2 _ h) (by decide)

theorem dec_nonl (m : Nat) : '\n' ∉ dec m := (natStr_ok m).2

theorem chainBody_nonl (n v : Nat) : '\n' ∉ chainBody n v := by
  simp [chainBody, padLeft, dec_nonl, hex_nonl]

theorem opsBody_nonl (n i j v : Nat) : '\n' ∉ opsBody n i j v := by
  simp [opsBody, padLeft, dec_nonl, hex_nonl]

theorem mapOpt_line {β} (f : List Char → Option β) (b rest : List Char) (h : '\n' ∉ b) :
    mapOpt f (splitAt '\n' (b ++ '\n' :: rest)).dropLast =
      match f b, mapOpt f (splitAt '\n' rest).dropLast with
      | some x, some xs => some (x :: xs)
      | _, _ => none := by
  rw [splitAt_line '\n' b rest h]; rfl

theorem readChain_render : ∀ (c : List Nat) (n : Nat), readChain (renderChainFrom n c) = some (enumChain n c) := by
  intro c
  induction c with
  | nil => intro n; rfl
  | cons v r ih =>
    intro n
    have := ih (n + 1)
    unfold readChain at this ⊢
    simp only [renderChainFrom, chainLine_eq, List.append_assoc, List.singleton_append]
    rw [mapOpt_line _ _ _ (chainBody_nonl n v), readChainLine_body, this]
    rfl

theorem readOps_render : ∀ (ops : List (Nat × Nat)) (vs : List Nat) (n : Nat),
    readOps (renderOpsFrom n ops vs) = some (enumOps n ops vs) := by
  intro ops
  induction ops with
  | nil => intro vs n; cases vs <;> rfl
  | cons o r ih =>
    intro vs n
    cases vs with
    | nil => rfl
    | cons v vs =>
      have := ih vs (n + 1)
      unfold readOps at this ⊢
      simp only [renderOpsFrom, opsLine_eq, List.append_assoc, List.singleton_append]
      rw [mapOpt_line _ _ _ (opsBody_nonl n o.1 o.2 v), readOpsLine_body, this]
      rfl

end AC.GenX
