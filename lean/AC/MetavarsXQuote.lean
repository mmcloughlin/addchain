import AC.MetavarsX
/-! `strconv.Unquote ∘ strconv.Quote = id` on all byte strings (model `AC.MetavarsX`). -/
namespace P.MetaX

theorem unhex_hexd : ∀ d, d < 16 → unhex (hexd d) = some d := by decide

theorem hexN_map_hexd (t : List Nat) : ∀ (ds : List Nat) (acc : Nat), (∀ d ∈ ds, d < 16) →
    hexN ds.length acc (ds.map hexd ++ t) = some (ds.foldl (fun a d => a * 16 + d) acc, t)
  | [], _, _ => rfl
  | d :: ds, acc, h => by
    simp only [List.length_cons, List.map_cons, List.cons_append, hexN, unhex_hexd d (h d List.mem_cons_self),
      List.foldl_cons]
    exact hexN_map_hexd t ds _ fun x hx => h x (List.mem_cons_of_mem _ hx)

/-- the `n` low hex digits of `r`, most significant first -/
def hexDigits : Nat → Nat → List Nat
  | 0, _ => []
  | n + 1, r => r / 16 ^ n % 16 :: hexDigits n r

theorem hexDigits_lt : ∀ (n r : Nat), ∀ d ∈ hexDigits n r, d < 16
  | n + 1, r, d, h => by
    rcases List.mem_cons.1 h with rfl | h
    · exact Nat.mod_lt _ (by decide)
    · exact hexDigits_lt n r d h

theorem hexDigits_length : ∀ (n r : Nat), (hexDigits n r).length = n
  | 0, _ => rfl
  | n + 1, r => congrArg (· + 1) (hexDigits_length n r)

theorem foldl_hexDigits : ∀ (n r acc : Nat),
    (hexDigits n r).foldl (fun a d => a * 16 + d) acc = acc * 16 ^ n + r % 16 ^ n
  | 0, r, acc => by simp [hexDigits, Nat.mod_one]
  | n + 1, r, acc => by
    rw [hexDigits, List.foldl_cons, foldl_hexDigits n r, Nat.mod_pow_succ, Nat.pow_succ, Nat.add_mul,
      Nat.mul_assoc, Nat.mul_comm 16, Nat.mul_comm (16 ^ n) (r / 16 ^ n % 16)]
    omega

theorem hexN_hexDigits (n r : Nat) (t : List Nat) (h : r < 16 ^ n) :
    hexN n 0 ((hexDigits n r).map hexd ++ t) = some (r, t) := by
  have := hexN_map_hexd t (hexDigits n r) 0 (hexDigits_lt n r)
  rwa [hexDigits_length, foldl_hexDigits, Nat.zero_mul, Nat.zero_add, Nat.mod_eq_of_lt h] at this

theorem hexN2 (b : Nat) (t : List Nat) (h : b < 256) : hexN 2 0 (hex2 b ++ t) = some (b, t) := by
  simpa [hexDigits, hex2] using hexN_hexDigits 2 b t h

theorem hexN4 (r : Nat) (t : List Nat) (h : r < 65536) : hexN 4 0 (hex4 r ++ t) = some (r, t) := by
  simpa [hexDigits, hex4] using hexN_hexDigits 4 r t h

theorem hexN8 (r : Nat) (t : List Nat) (h : r < 4294967296) : hexN 8 0 (hex8 r ++ t) = some (r, t) := by
  simpa [hexDigits, hex8, hex4] using hexN_hexDigits 8 r t h

/-! UTF-8: `encode` inverts `decodeMB`.

A lead byte is `base + a`, a continuation byte `0x80 + c` with payload `c < 64` (`payload`); the rune is the payloads
read as base-64 digits. `encode` reads the digits off again (`encode_digits*`, no range reasoning beyond picking the
branch). Which range the rune falls in is the one piece of arithmetic, done once per sequence length on the payloads
alone (`rune2/3/4`): there the two corner cases of `lo1`/`hi1` show as what excludes overlong forms, surrogates and
runes above U+10FFFF. -/

theorem lo1_le {b0 b1 : Nat} (h : lo1 b0 ≤ b1) : (b0 = 0xE0 → 0xA0 ≤ b1) ∧ (b0 = 0xF0 → 0x90 ≤ b1) ∧ 0x80 ≤ b1 := by
  refine ⟨fun e => by subst e; exact h, fun e => by subst e; exact h, Nat.le_trans ?_ h⟩
  unfold lo1
  split
  · decide
  · split <;> decide

theorem le_hi1 {b0 b1 : Nat} (h : b1 ≤ hi1 b0) : (b0 = 0xED → b1 ≤ 0x9F) ∧ (b0 = 0xF4 → b1 ≤ 0x8F) ∧ b1 ≤ 0xBF := by
  refine ⟨fun e => by subst e; exact h, fun e => by subst e; exact h, Nat.le_trans h ?_⟩
  unfold hi1
  split
  · decide
  · split <;> decide

theorem payload {lo hi b : Nat} (h : lo ≤ b ∧ b ≤ hi) : ∃ a, a < hi + 1 - lo ∧ b = lo + a :=
  ⟨b - lo, Nat.sub_lt_sub_right h.1 (Nat.lt_succ_of_le h.2), (Nat.add_sub_cancel' h.1).symm⟩

theorem digit_div {b : Nat} (q d : Nat) (hd : d < b) : (q * b + d) / b = q := by
  rw [Nat.mul_comm, Nat.mul_add_div (Nat.zero_lt_of_lt hd), Nat.div_eq_of_lt hd, Nat.add_zero]

theorem digit_mod {b : Nat} (q d : Nat) (hd : d < b) : (q * b + d) % b = d := by
  rw [Nat.mul_add_mod', Nat.mod_eq_of_lt hd]

theorem div4096 (x : Nat) : x / 4096 = x / 64 / 64 := (Nat.div_div_eq_div_mul x 64 64).symm

theorem div262144 (x : Nat) : x / 262144 = x / 64 / 64 / 64 := by
  rw [Nat.div_div_eq_div_mul, Nat.div_div_eq_div_mul]

theorem horner3 (a c d : Nat) : a * 4096 + c * 64 + d = (a * 64 + c) * 64 + d := by
  rw [Nat.add_mul, Nat.mul_assoc]

theorem horner4 (a c d e : Nat) : a * 262144 + c * 4096 + d * 64 + e = ((a * 64 + c) * 64 + d) * 64 + e := by
  simp only [Nat.add_mul, Nat.mul_assoc]

theorem encode_digits2 {a c : Nat} (hc : c < 64) (lo : 0x80 ≤ a * 64 + c) (hi : a * 64 + c < 0x800) :
    encode (a * 64 + c) = [0xC0 + a, 0x80 + c] := by
  rw [encode, if_neg (Nat.not_lt.2 lo), if_pos hi, digit_div _ _ hc, digit_mod _ _ hc]

theorem encode_digits3 {a c d r : Nat} (hr : r = (a * 64 + c) * 64 + d) (hc : c < 64) (hd : d < 64)
    (lo : 0x800 ≤ r) (hi : r < 0x10000) (hv : r < 0xD800 ∨ (0xDFFF < r ∧ r ≤ 0x10FFFF)) :
    encode r = [0xE0 + a, 0x80 + c, 0x80 + d] := by
  rw [encode, if_neg (Nat.not_lt.2 (Nat.le_trans (by decide) lo)), if_neg (Nat.not_lt.2 lo), if_neg (by omega),
    if_pos hi, hr]
  simp only [div4096, digit_div, digit_mod, hc, hd]

theorem encode_digits4 {a c d e r : Nat} (hr : r = ((a * 64 + c) * 64 + d) * 64 + e) (hc : c < 64) (hd : d < 64)
    (he : e < 64) (lo : 0x10000 ≤ r) (hi : r ≤ 0x10FFFF) :
    encode r = [0xF0 + a, 0x80 + c, 0x80 + d, 0x80 + e] := by
  rw [encode, if_neg (Nat.not_lt.2 (Nat.le_trans (by decide) lo)), if_neg (Nat.not_lt.2 (Nat.le_trans (by decide) lo)),
    if_neg (by omega), if_neg (Nat.not_lt.2 lo), hr]
  simp only [div262144, div4096, digit_div, digit_mod, hc, hd, he]

theorem rune2 {a c : Nat} (ha : a < 32) (hc : c < 64) (h2 : 0xC2 ≤ 0xC0 + a) :
    0x80 ≤ a * 64 + c ∧ a * 64 + c < 0x800 := by
  omega

theorem rune3 {a c d r : Nat} (hr : r = a * 4096 + c * 64 + d) (ha : a < 16) (hc : c < 64) (hd : d < 64)
    (hlo : 0xE0 + a = 0xE0 → 0xA0 ≤ 0x80 + c) (hhi : 0xE0 + a = 0xED → 0x80 + c ≤ 0x9F) :
    0x800 ≤ r ∧ r < 0x10000 ∧ (r < 0xD800 ∨ (0xDFFF < r ∧ r ≤ 0x10FFFF)) := by
  omega

theorem rune4 {a c d e r : Nat} (hr : r = a * 262144 + c * 4096 + d * 64 + e) (ha : a < 5) (hc : c < 64)
    (hd : d < 64) (he : e < 64) (hlo : 0xF0 + a = 0xF0 → 0x90 ≤ 0x80 + c) (hhi : 0xF0 + a = 0xF4 → 0x80 + c ≤ 0x8F) :
    0x10000 ≤ r ∧ r ≤ 0x10FFFF := by
  omega

/-- what a successful multi-byte decode means -/
structure Dec (r : Nat) (enc : List Nat) : Prop where
  enc_eq : encode r = enc
  valid : validRune r = true
  redecode : ∀ t, decodeMB (enc ++ t) = some (r, t)
  head : ∃ c p, enc = c :: p ∧ 0x80 ≤ c

theorem dec2 {b0 b1 : Nat} (h0 : 0xC2 ≤ b0 ∧ b0 ≤ 0xDF) (h1 : 0x80 ≤ b1 ∧ b1 ≤ 0xBF) :
    Dec ((b0 - 0xC0) * 64 + (b1 - 0x80)) [b0, b1] := by
  have redecode t : decodeMB ([b0, b1] ++ t) = some ((b0 - 0xC0) * 64 + (b1 - 0x80), t) := by
    simp only [List.cons_append, List.nil_append, decodeMB, if_pos h0, if_pos h1]
  obtain ⟨a, ha, rfl⟩ : ∃ a, a < 32 ∧ b0 = 0xC0 + a := payload ⟨Nat.le_trans (show 0xC0 ≤ 0xC2 by decide) h0.1, h0.2⟩
  obtain ⟨c, hc, rfl⟩ : ∃ c, c < 64 ∧ b1 = 0x80 + c := payload h1
  simp only [Nat.add_sub_cancel_left] at redecode ⊢
  obtain ⟨lo, hi⟩ := rune2 ha hc h0.1
  exact ⟨encode_digits2 hc lo hi, decide_eq_true (Or.inl (Nat.lt_trans hi (by decide))), redecode,
    _, _, rfl, Nat.le_trans (by decide) h0.1⟩

theorem dec3 {b0 b1 b2 : Nat} (h0 : 0xE0 ≤ b0 ∧ b0 ≤ 0xEF)
    (hc : lo1 b0 ≤ b1 ∧ b1 ≤ hi1 b0 ∧ 0x80 ≤ b2 ∧ b2 ≤ 0xBF) :
    Dec ((b0 - 0xE0) * 4096 + (b1 - 0x80) * 64 + (b2 - 0x80)) [b0, b1, b2] := by
  have redecode t : decodeMB ([b0, b1, b2] ++ t) = some ((b0 - 0xE0) * 4096 + (b1 - 0x80) * 64 + (b2 - 0x80), t) := by
    simp only [List.cons_append, List.nil_append, decodeMB,
      if_neg fun h : 0xC2 ≤ b0 ∧ b0 ≤ 0xDF => absurd (Nat.le_trans h0.1 h.2) (by decide), if_pos h0, if_pos hc]
  obtain ⟨hlo, -, h1⟩ := lo1_le hc.1
  obtain ⟨hhi, -, h1'⟩ := le_hi1 hc.2.1
  obtain ⟨a, ha, rfl⟩ : ∃ a, a < 16 ∧ b0 = 0xE0 + a := payload h0
  obtain ⟨c, hc', rfl⟩ : ∃ c, c < 64 ∧ b1 = 0x80 + c := payload ⟨h1, h1'⟩
  obtain ⟨d, hd, rfl⟩ : ∃ d, d < 64 ∧ b2 = 0x80 + d := payload hc.2.2
  simp only [Nat.add_sub_cancel_left] at redecode ⊢
  generalize hr : a * 4096 + c * 64 + d = r at redecode ⊢
  obtain ⟨lo, hi, hv⟩ := rune3 hr.symm ha hc' hd hlo hhi
  exact ⟨encode_digits3 (hr.symm.trans (horner3 a c d)) hc' hd lo hi hv, decide_eq_true hv, redecode, _, _, rfl, Nat.le_trans (by decide) h0.1⟩

theorem dec4 {b0 b1 b2 b3 : Nat} (h0 : 0xF0 ≤ b0 ∧ b0 ≤ 0xF4)
    (hc : lo1 b0 ≤ b1 ∧ b1 ≤ hi1 b0 ∧ 0x80 ≤ b2 ∧ b2 ≤ 0xBF ∧ 0x80 ≤ b3 ∧ b3 ≤ 0xBF) :
    Dec ((b0 - 0xF0) * 262144 + (b1 - 0x80) * 4096 + (b2 - 0x80) * 64 + (b3 - 0x80)) [b0, b1, b2, b3] := by
  have redecode t : decodeMB ([b0, b1, b2, b3] ++ t) =
      some ((b0 - 0xF0) * 262144 + (b1 - 0x80) * 4096 + (b2 - 0x80) * 64 + (b3 - 0x80), t) := by
    simp only [List.cons_append, List.nil_append, decodeMB,
      if_neg fun h : 0xC2 ≤ b0 ∧ b0 ≤ 0xDF => absurd (Nat.le_trans h0.1 h.2) (by decide),
      if_neg fun h : 0xE0 ≤ b0 ∧ b0 ≤ 0xEF => absurd (Nat.le_trans h0.1 h.2) (by decide), if_pos h0, if_pos hc]
  obtain ⟨-, hlo, h1⟩ := lo1_le hc.1
  obtain ⟨-, hhi, h1'⟩ := le_hi1 hc.2.1
  obtain ⟨a, ha, rfl⟩ : ∃ a, a < 5 ∧ b0 = 0xF0 + a := payload h0
  obtain ⟨c, hc', rfl⟩ : ∃ c, c < 64 ∧ b1 = 0x80 + c := payload ⟨h1, h1'⟩
  obtain ⟨d, hd, rfl⟩ : ∃ d, d < 64 ∧ b2 = 0x80 + d := payload ⟨hc.2.2.1, hc.2.2.2.1⟩
  obtain ⟨e, he, rfl⟩ : ∃ e, e < 64 ∧ b3 = 0x80 + e := payload hc.2.2.2.2
  simp only [Nat.add_sub_cancel_left] at redecode ⊢
  generalize hr : a * 262144 + c * 4096 + d * 64 + e = r at redecode ⊢
  obtain ⟨lo, hi⟩ := rune4 hr.symm ha hc' hd he hlo hhi
  exact ⟨encode_digits4 (hr.symm.trans (horner4 a c d e)) hc' hd he lo hi,
    decide_eq_true (Or.inr ⟨Nat.lt_of_lt_of_le (by decide) lo, hi⟩), redecode, _, _, rfl,
    Nat.le_trans (by decide) h0.1⟩

theorem decodeMB_spec (l : List Nat) (r : Nat) (t' : List Nat) (h : decodeMB l = some (r, t')) :
    ∃ enc, l = enc ++ t' ∧ Dec r enc := by
  revert h
  fun_cases decodeMB l <;> intro h
  case case1 h0 h1 => obtain ⟨rfl, rfl⟩ := Prod.mk.inj (Option.some.inj h); exact ⟨_, rfl, dec2 h0 h1⟩
  case case3 h0 _ _ hc => obtain ⟨rfl, rfl⟩ := Prod.mk.inj (Option.some.inj h); exact ⟨_, rfl, dec3 h0 hc⟩
  case case6 h0 _ _ _ hc => obtain ⟨rfl, rfl⟩ := Prod.mk.inj (Option.some.inj h); exact ⟨_, rfl, dec4 h0 hc⟩
  all_goals cases h

/-! One `UnquoteChar` step undoes one `appendEscapedRune`. -/

/-- shape of a piece emitted by `quote` for one chunk whose original bytes are `inp` -/
structure Piece (piece inp : List Nat) : Prop where
  head : ∃ c p, piece = c :: p ∧ c ≠ 0x22 ∧ c ≠ 0x0A
  unq : ∀ t, unqChar (piece ++ t) = some (inp, t)

theorem piece_unesc {e : Nat} {p inp : List Nat} (h : ∀ t, unesc (e :: (p ++ t)) = some (inp, t)) :
    Piece (0x5C :: e :: p) inp :=
  ⟨⟨0x5C, e :: p, rfl, by decide, by decide⟩, fun t => by simp only [List.cons_append, unqChar, if_true, h]⟩

theorem piece_hex2 (b : Nat) (hb : b < 256) : Piece ([0x5C, 120] ++ hex2 b) [b] :=
  piece_unesc fun t => by simp [unesc, hexN2 b t hb]

/-- a chunk `inp` of the input that `quote` handles as the rune `r`: a single ASCII byte or a valid multi-byte
    sequence. `raw` says that `inp`, copied as it is, is read back by `unqChar`. -/
structure Chunk (r : Nat) (inp : List Nat) : Prop where
  enc_eq : encode r = inp
  valid : validRune r = true
  raw : r ≠ 0x22 → r ≠ 0x5C → r ≠ 0x0A → Piece inp inp

theorem chunk_ascii {r : Nat} (hr : r < 0x80) : Chunk r [r] :=
  ⟨by rw [encode, if_pos hr], decide_eq_true (Or.inl (Nat.lt_trans hr (by decide))), fun h1 h2 h3 =>
    ⟨⟨r, [], rfl, h1, h3⟩, fun t => by
      simp only [List.cons_append, List.nil_append, unqChar, if_neg h2, if_pos hr]⟩⟩

theorem Dec.chunk {r : Nat} {enc : List Nat} (d : Dec r enc) : Chunk r enc := by
  refine ⟨d.enc_eq, d.valid, fun _ _ _ => ?_⟩
  obtain ⟨c, p, rfl, hc⟩ := d.head
  refine ⟨⟨c, p, rfl, by omega, by omega⟩, fun t => ?_⟩
  have hd := d.redecode t
  rw [List.cons_append] at hd ⊢
  simp only [unqChar, if_neg (show c ≠ 0x5C by omega), if_neg (show ¬ c < 0x80 by omega), hd, d.enc_eq]

theorem piece_escRune (isPrint : Nat → Bool) {r : Nat} {inp : List Nat} (h : Chunk r inp) :
    Piece (escRune isPrint r) inp := by
  have hv := h.valid
  obtain ⟨rfl⟩ := h.enc_eq
  -- one case per branch of `escRune`, in the order of its text: 1 quote or backslash, 2 printable,
  -- 3–9 the named control escapes, 10 `\x`, 11 invalid rune, 12 `\u`, 13 `\U`
  fun_cases escRune isPrint r
  case case1 hq => rcases hq with rfl | rfl <;> exact piece_unesc fun _ => rfl
  case case2 hq hp => exact h.raw (fun e => hq (Or.inl e)) (fun e => hq (Or.inr e)) (by rintro rfl; cases hp)
  case case10 hx =>
    have hr : r < 0x80 := by omega
    rw [encode, if_pos hr]
    exact piece_hex2 r (Nat.lt_trans hr (by decide))
  case case11 hn => rw [hv] at hn; cases hn
  case case12 h3 => exact piece_unesc fun t => by simp [unesc, hexN4 r t h3, hv]
  case case13 =>
    have : r < 4294967296 := by simp [validRune] at hv; omega
    exact piece_unesc fun t => by simp [unesc, hexN8 r t this, hv]
  all_goals subst r; exact piece_unesc fun _ => rfl

theorem unqR_piece (piece inp : List Nat) (hp : Piece piece inp) (m : Nat) (rest : List Nat) :
    unqR (m + 1) (piece ++ rest) =
      match unqR m rest with
      | some (v, r') => some (inp ++ v, r')
      | none => none := by
  obtain ⟨c, p, hcp, h1, h2⟩ := hp.head
  have hu := hp.unq rest
  rw [hcp] at hu ⊢
  simp only [List.cons_append] at hu ⊢
  simp only [unqR, if_neg h1, if_neg h2, hu]
  rfl

/-- one round of the quoting loop: a non-empty chunk `inp` of the input becomes a piece that `unqChar` reads back -/
theorem bodyF_step (isPrint : Nat → Bool) (n b : Nat) (rest : List Nat) (hb : b < 256) :
    ∃ piece inp rest', Piece piece inp ∧ inp ≠ [] ∧ b :: rest = inp ++ rest' ∧
      bodyF isPrint (n + 1) (b :: rest) = piece ++ bodyF isPrint n rest' := by
  by_cases h1 : b < 0x80
  · exact ⟨_, [b], rest, piece_escRune isPrint (chunk_ascii h1), List.cons_ne_nil _ _, rfl,
      by simp only [bodyF, if_pos h1]⟩
  · cases hd : decodeMB (b :: rest) with
    | none => exact ⟨_, [b], rest, piece_hex2 b hb, List.cons_ne_nil _ _, rfl, by simp only [bodyF, if_neg h1, hd]⟩
    | some rt =>
      obtain ⟨enc, hsplit, hdec⟩ := decodeMB_spec _ _ _ hd
      obtain ⟨c, p, hcp, -⟩ := hdec.head
      exact ⟨_, enc, rt.2, piece_escRune isPrint hdec.chunk, hcp ▸ List.cons_ne_nil _ _, hsplit,
        by simp only [bodyF, if_neg h1, hd]⟩

/-- the unquoting loop run on the quoted body gives back the bytes and stops after the closing quote -/
theorem unqR_bodyF (isPrint : Nat → Bool) : ∀ (n : Nat) (s : List Nat), s.length ≤ n → (∀ b ∈ s, b < 256) →
    ∀ (m : Nat) (t : List Nat), (bodyF isPrint n s).length < m →
      unqR m (bodyF isPrint n s ++ 0x22 :: t) = some (s, t)
  | _, _, _, _, 0, _, hm => absurd hm (Nat.not_lt_zero _)
  | 0, [], _, _, m + 1, t, _ => by simp [bodyF, unqR]
  | n + 1, [], _, _, m + 1, t, _ => by simp [bodyF, unqR]
  | n + 1, b :: rest, hs, hb, m + 1, t, hm => by
    obtain ⟨piece, inp, rest', hp, hne, hsplit, hbody⟩ := bodyF_step isPrint n b rest (hb b List.mem_cons_self)
    obtain ⟨c, p, rfl, -⟩ := hp.head
    rw [hbody] at hm ⊢
    -- the piece has at least one byte, so what is left of the body fits the remaining fuel
    have hm' : (bodyF isPrint n rest').length < m := by
      rw [List.length_append, List.length_cons] at hm; omega
    have hl : rest'.length < (b :: rest).length := by
      rw [hsplit, List.length_append]
      exact Nat.lt_add_of_pos_left (List.length_pos_iff.2 hne)
    rw [List.append_assoc, unqR_piece _ inp hp,
      unqR_bodyF isPrint n rest' (Nat.le_of_lt_succ (Nat.lt_of_lt_of_le hl hs))
        (fun x hx => hb x (hsplit ▸ List.mem_append_right _ hx)) m t hm', hsplit]

/-- `strconv.Unquote(strconv.Quote(s)) = s` for every byte string (valid UTF-8 or not), whatever `IsPrint` is -/
theorem unquote_quote (isPrint : Nat → Bool) (s : List Nat) (hs : ∀ b ∈ s, b < 256) :
    unquote (quote isPrint s) = some s := by
  unfold quote unquote
  have := unqR_bodyF isPrint s.length s (Nat.le_refl _) hs (bodyF isPrint s.length s ++ [0x22]).length []
    (by simp)
  simp only [this]

end P.MetaX
