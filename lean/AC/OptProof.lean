import AC.OptX
import AC.Opt
import AC.ChainFacts
/-! Proof of C10 over the executable, index-based model `P.OptX.optimize`. -/
namespace P.OptX
open P

/-- an update of the counters that keeps their number and lowers none -/
def Grows {α} (f : List Nat → α → List Nat) : Prop :=
  ∀ cs a, (f cs a).length = cs.length ∧ ∀ j, cs.getD j 0 ≤ (f cs a).getD j 0

theorem Grows.foldl {α} {f : List Nat → α → List Nat} (hf : Grows f) :
    Grows fun cs (l : List α) => l.foldl f cs := by
  intro cs l
  induction l generalizing cs with
  | nil => exact ⟨rfl, fun _ => Nat.le_refl _⟩
  | cons a r ih =>
    obtain ⟨h1, h2⟩ := hf cs a
    obtain ⟨i1, i2⟩ := ih (f cs a)
    exact ⟨i1.trans h1, fun j => Nat.le_trans (h2 j) (i2 j)⟩

/-- a counter that one element of the fold makes positive is positive at the end -/
theorem Grows.foldl_pos {α} {f : List Nat → α → List Nat} (hf : Grows f) (a : α) (i : Nat)
    (ha : ∀ cs, i < cs.length → 0 < (f cs a).getD i 0) :
    ∀ (l : List α), a ∈ l → ∀ cs, i < cs.length → 0 < (l.foldl f cs).getD i 0 := by
  intro l
  induction l with
  | nil => intro h; cases h
  | cons b r ih =>
    intro hm cs hl
    rcases List.mem_cons.1 hm with rfl | hm
    · exact Nat.lt_of_lt_of_le (ha cs hl) ((hf.foldl (f cs a) r).2 i)
    · exact ih hm _ (by rw [(hf cs b).1]; exact hl)

theorem incr_grows : Grows incr
  | [], _ => ⟨rfl, fun _ => Nat.le_refl _⟩
  | c :: _, 0 => ⟨rfl, fun
      | 0 => Nat.le_succ c
      | _+1 => Nat.le_refl _⟩
  | _ :: r, i+1 => ⟨congrArg (· + 1) (incr_grows r i).1, fun
      | 0 => Nat.le_refl _
      | j+1 => (incr_grows r i).2 j⟩

theorem incr_pos : ∀ (cs : List Nat) (i : Nat), i < cs.length → 0 < (incr cs i).getD i 0
  | c :: _, 0, _ => Nat.succ_pos c
  | _ :: r, i+1, h => incr_pos r i (Nat.lt_of_succ_lt_succ h)

theorem bumpSingle_grows : Grows bumpSingle := by
  intro cs l
  unfold bumpSingle
  split
  · exact incr_grows.foldl cs _
  · exact ⟨rfl, fun _ => Nat.le_refl _⟩

theorem bumpSingle_pos (cs : List Nat) (o : Op) (i : Nat) (hi : i ∈ operands o) (hl : i < cs.length) :
    0 < (bumpSingle cs [o]).getD i 0 :=
  incr_grows.foldl_pos i i (fun cs h => incr_pos cs i h) (operands o) hi cs hl

/-- the counter sweeps of `initSt` and `step`: `bumpSingle` over the lists `g l` -/
theorem bumpAll_grows {α} (g : α → List Op) : Grows fun cs l => bumpSingle cs (g l) :=
  fun cs l => bumpSingle_grows cs (g l)

theorem bumpAll_pos {α} (g : α → List Op) (ls : List α) (cs : List Nat) (l : α) (o : Op) (i : Nat)
    (hl : l ∈ ls) (hg : g l = [o]) (hi : i ∈ operands o) (hc : i < cs.length) :
    0 < (ls.foldl (fun cs l => bumpSingle cs (g l)) cs).getD i 0 :=
  (bumpAll_grows g).foldl_pos l i (fun cs h => by rw [hg]; exact bumpSingle_pos cs o i hi h) ls hl cs hc

/-- at most one op of position `l` uses a given index: the other operand is determined by the sum -/
theorem ops_uses_unique (c : Chain) (hnd : c.Nodup) (l : Nat) (hl : l < c.length) (k : Nat) (o o' : Op)
    (ho : o ∈ P.ops c l) (ho' : o' ∈ P.ops c l) (hu : uses o k = true) (hu' : uses o' k = true) : o = o' := by
  obtain ⟨i, j⟩ := o
  obtain ⟨i', j'⟩ := o'
  obtain ⟨h1, h2, h3⟩ := (mem_ops c l i j hl).1 ho
  obtain ⟨h1', h2', h3'⟩ := (mem_ops c l i' j' hl).1 ho'
  have other : ∀ {a b b' : Nat}, b < l → b' < l → at' c a + at' c b = at' c l →
      at' c a + at' c b' = at' c l → b = b' := fun hb hb' e e' =>
    at'_inj c hnd _ _ (Nat.lt_trans hb hl) (Nat.lt_trans hb' hl) (Int.add_left_cancel (e.trans e'.symm))
  have hi := Nat.lt_of_le_of_lt h1 h2
  have hi' := Nat.lt_of_le_of_lt h1' h2'
  simp only [uses, Bool.or_eq_true, beq_iff_eq] at hu hu'
  rcases hu with rfl | rfl <;> rcases hu' with rfl | rfl
  · rw [other h2 h2' h3 h3']
  · obtain rfl := other h2 hi' h3 ((Int.add_comm _ _).trans h3')
    obtain rfl := Nat.le_antisymm h1 h1'
    rfl
  · obtain rfl := other hi h2' ((Int.add_comm _ _).trans h3) h3'
    obtain rfl := Nat.le_antisymm h1 h1'
    rfl
  · rw [other hi hi' ((Int.add_comm _ _).trans h3) ((Int.add_comm _ _).trans h3')]

theorem ops_nodup (c : Chain) (l : Nat) (hl : l < c.length) : (P.ops c l).Nodup := by
  rw [ops_eq_spec c l hl]
  have := quadOps_sorted c l
  exact this.imp (fun {a b} h e => by subst e; exact lexLt_irrefl _ h)

theorem mem_operands (o : Op) (i : Nat) : i ∈ operands o ↔ uses o i = true := by
  unfold operands uses
  by_cases h : o.1 = o.2 <;> simp [h, eq_comm (a := i)]

theorem operand_lt (c : Chain) (l : Nat) (hl : l < c.length) (o : Op) (ho : o ∈ P.ops c l) (i : Nat)
    (hi : i ∈ operands o) : i < l := by
  obtain ⟨a, b⟩ := o
  obtain ⟨h1, h2, _⟩ := (mem_ops c l a b hl).1 ho
  simp only [mem_operands, uses, Bool.or_eq_true, beq_iff_eq] at hi
  rcases hi with rfl | rfl
  · exact Nat.lt_of_le_of_lt h1 h2
  · exact h2

theorem ops_ne_nil (c : Chain) (hc : IsChain c) (l : Nat) (h1 : 1 ≤ l) (hl : l < c.length) : P.ops c l ≠ [] := by
  obtain ⟨i, j, hi, hj, hs⟩ := hc.2.2.2.2 l h1 hl
  rcases Nat.le_total i j with hij | hij
  · exact List.ne_nil_of_mem ((mem_ops c l i j hl).2 ⟨hij, hj, hs⟩)
  · exact List.ne_nil_of_mem ((mem_ops c l j i hl).2 ⟨hij, hi, (Int.add_comm _ _).trans hs⟩)

def opsAt (st : St) (l : Nat) : List Op := st.ops.getD l []

structure Inv (c : Chain) (st : St) : Prop where
  lenO : st.ops.length = c.length
  lenC : st.counts.length = c.length
  sub : ∀ l o, o ∈ opsAt st l → 1 ≤ l ∧ l < c.length ∧ o ∈ P.ops c l
  nonempty : ∀ l, 1 ≤ l → l < c.length → l ∉ st.remove → opsAt st l ≠ []
  avoid : ∀ l o, o ∈ opsAt st l → ∀ r ∈ st.remove, uses o r = false
  counts : ∀ l o, opsAt st l = [o] → ∀ i ∈ operands o, 0 < st.counts.getD i 0
  rem : ∀ r ∈ st.remove, 1 ≤ r ∧ r + 1 < c.length
  nodup : ∀ l, (opsAt st l).Nodup

theorem opsAt_init (c : Chain) (l : Nat) :
    opsAt (initSt c) l = if 1 ≤ l ∧ l < c.length then P.ops c l else [] := by
  simp only [opsAt, initSt, List.getD_eq_getElem?_getD, List.getElem?_map]
  by_cases hl : l < c.length
  · rw [List.getElem?_range hl]
    cases l <;> simp [hl]
  · rw [List.getElem?_eq_none (by simpa using hl)]
    simp [hl]

theorem init_inv (c : Chain) (hc : IsChain c) : Inv c (initSt c) := by
  have hcounts : (initSt c).counts = ((List.range c.length).filter (0 < ·)).foldl
      (fun cs k => bumpSingle cs (opsAt (initSt c) k)) (List.replicate c.length 0) := rfl
  have hsub : ∀ l o, o ∈ opsAt (initSt c) l → 1 ≤ l ∧ l < c.length ∧ o ∈ P.ops c l := by
    intro l o ho
    rw [opsAt_init] at ho
    split at ho
    · rename_i h; exact ⟨h.1, h.2, ho⟩
    · cases ho
  refine ⟨by simp [initSt], ?_, hsub, ?_, ?_, ?_, ?_, ?_⟩
  · rw [hcounts, ((bumpAll_grows _).foldl _ _).1]; simp
  · intro l h1 hl _
    rw [opsAt_init, if_pos ⟨h1, hl⟩]
    exact ops_ne_nil c hc l h1 hl
  · intro l o _ r hr; cases hr
  · intro l o hlo i hi
    obtain ⟨h1, hl, hmem⟩ := hsub l o (by rw [hlo]; exact List.mem_singleton_self o)
    have := operand_lt c l hl o hmem i hi
    rw [hcounts]
    exact bumpAll_pos _ _ _ l o i (List.mem_filter.2 ⟨List.mem_range.2 hl, decide_eq_true h1⟩) hlo hi
      (by rw [List.length_replicate]; exact Nat.lt_trans this hl)
  · intro r hr; cases hr
  · intro l
    rw [opsAt_init]
    split
    · rename_i h; exact ops_nodup c l h.2
    · exact List.nodup_nil

theorem step_zero (n : Nat) (st : St) (k : Nat) (h0 : st.counts.getD k 0 = 0) :
    step n st k =
      let ops' := st.ops.mapIdx fun l o => if k < l then pruneUses o k else o
      { ops := ops',
        counts := ((List.range n).filter (k < ·)).foldl (fun cs l => bumpSingle cs (ops'.getD l [])) st.counts,
        remove := st.remove ++ [k] } :=
  if_neg (Nat.not_lt.2 (Nat.le_of_eq h0))

theorem opsAt_step (n : Nat) (st : St) (k : Nat) (h0 : st.counts.getD k 0 = 0) (l : Nat) :
    opsAt (step n st k) l = if k < l then pruneUses (opsAt st l) k else opsAt st l := by
  rw [step_zero n st k h0]
  simp only [opsAt, List.getD_eq_getElem?_getD, List.getElem?_mapIdx]
  cases st.ops[l]? <;> simp [pruneUses]

theorem step_inv (c : Chain) (hnd : c.Nodup) (st : St) (k : Nat) (h : Inv c st) (hk1 : 1 ≤ k) (hk2 : k + 1 < c.length) :
    Inv c (step c.length st k) := by
  by_cases h0 : st.counts.getD k 0 > 0
  · rw [step, if_pos h0]; exact h
  · have h0' : st.counts.getD k 0 = 0 := Nat.eq_zero_of_not_pos h0
    have hops := opsAt_step c.length st k h0'
    have hrem : (step c.length st k).remove = st.remove ++ [k] := by rw [step_zero _ st k h0']
    have hcnt : (step c.length st k).counts = ((List.range c.length).filter (k < ·)).foldl
        (fun cs l => bumpSingle cs (opsAt (step c.length st k) l)) st.counts := by
      rw [step_zero _ st k h0']; rfl
    have hlenO : (step c.length st k).ops.length = c.length := by
      rw [step_zero _ st k h0', List.length_mapIdx, h.lenO]
    have hsubset : ∀ l o, o ∈ opsAt (step c.length st k) l → o ∈ opsAt st l := by
      intro l o ho
      rw [hops] at ho
      split at ho
      · exact (List.mem_filter.1 ho).1
      · exact ho
    -- a singleton list that uses `k` would have made its counter positive
    have hsingle : ∀ l o, opsAt st l = [o] → uses o k = false := by
      intro l o hlo
      cases hu : uses o k with
      | false => rfl
      | true => exact absurd (h.counts l o hlo k ((mem_operands o k).2 hu)) (h0'.symm ▸ Nat.lt_irrefl 0)
    refine ⟨hlenO, ?_, ?_, ?_, ?_, ?_, ?_, ?_⟩
    · rw [hcnt, ((bumpAll_grows _).foldl _ _).1]; exact h.lenC
    · intro l o ho; exact h.sub l o (hsubset l o ho)
    · intro l h1 hl hnr
      rw [hrem] at hnr
      have hold := h.nonempty l h1 hl fun hh => hnr (List.mem_append_left _ hh)
      rw [hops]
      split
      · exact P.Opt.filter_not_ne_nil (opsAt st l) (uses · k) hold (h.nodup l)
          (fun x y hx hy => ops_uses_unique c hnd l hl k x y (h.sub l x hx).2.2 (h.sub l y hy).2.2)
          (hsingle l)
      · exact hold
    · intro l o ho r hr
      rw [hrem] at hr
      rcases List.mem_append.1 hr with hr | hr
      · exact h.avoid l o (hsubset l o ho) r hr
      · obtain rfl := List.mem_singleton.1 hr
        rw [hops] at ho
        split at ho
        · simpa using (List.mem_filter.1 ho).2
        · rename_i hkl
          obtain ⟨_, hl, hmem⟩ := h.sub l o ho
          cases hu : uses o r with
          | false => rfl
          | true => exact absurd (operand_lt c l hl o hmem r ((mem_operands o r).2 hu)) hkl
    · intro l o hlo i hi
      rw [hcnt]
      obtain ⟨h1, hl, hmo⟩ := h.sub l o (hsubset l o (by rw [hlo]; exact List.mem_singleton_self o))
      have hi_lt : i < st.counts.length := h.lenC ▸ Nat.lt_trans (operand_lt c l hl o hmo i hi) hl
      by_cases hkl : k < l
      · exact bumpAll_pos _ _ _ l o i (List.mem_filter.2 ⟨List.mem_range.2 hl, decide_eq_true hkl⟩) hlo hi hi_lt
      · have : opsAt st l = [o] := by rw [hops, if_neg hkl] at hlo; exact hlo
        exact Nat.lt_of_lt_of_le (h.counts l o this i hi) (((bumpAll_grows _).foldl _ _).2 i)
    · intro r hr
      rw [hrem] at hr
      rcases List.mem_append.1 hr with hr | hr
      · exact h.rem r hr
      · obtain rfl := List.mem_singleton.1 hr; exact ⟨hk1, hk2⟩
    · intro l
      rw [hops]
      split
      · exact (h.nodup l).sublist List.filter_sublist
      · exact h.nodup l

theorem fold_inv (c : Chain) (hnd : c.Nodup) : ∀ (ks : List Nat) (st : St), Inv c st →
    (∀ k ∈ ks, 1 ≤ k ∧ k + 1 < c.length) → Inv c (ks.foldl (step c.length) st) := by
  intro ks
  induction ks with
  | nil => intro st h _; exact h
  | cons k r ih =>
    intro st h hk
    simp only [List.foldl_cons]
    exact ih _ (step_inv c hnd st k h (hk k (by simp)).1 (hk k (by simp)).2)
      (fun k' hk' => hk k' (List.mem_cons_of_mem _ hk'))

/-- kept elements among the first `m` positions -/
def keptPrefix (c : Chain) (remove : List Nat) (m : Nat) : Chain :=
  (List.range m).filterMap fun i => if remove.contains i then none else some (at' c i)

theorem optimize_eq (c : Chain) :
    optimize c = keptPrefix c (((List.range (c.length - 1)).filter (0 < ·)).foldl (step c.length) (initSt c)).remove c.length := rfl

theorem mem_keptPrefix (c : Chain) (remove : List Nat) (m : Nat) (x : Int) :
    x ∈ keptPrefix c remove m ↔ ∃ i, i < m ∧ i ∉ remove ∧ x = at' c i := by
  unfold keptPrefix
  simp only [List.mem_filterMap, List.mem_range]
  constructor
  · rintro ⟨i, hi, h⟩
    split at h
    · cases h
    · rename_i hc
      refine ⟨i, hi, ?_, by cases h; rfl⟩
      intro hm; exact hc (List.contains_iff_mem.2 hm)
  · rintro ⟨i, hi, hn, rfl⟩
    refine ⟨i, hi, ?_⟩
    simp [hn]

theorem keptPrefix_succ (c : Chain) (remove : List Nat) (m : Nat) :
    keptPrefix c remove (m + 1) =
      if m ∈ remove then keptPrefix c remove m else keptPrefix c remove m ++ [at' c m] := by
  unfold keptPrefix
  rw [List.range_succ, List.filterMap_append]
  by_cases h : m ∈ remove <;> simp [h]

/-- the pruned chain is an addition chain: a kept position still has an op, whose operands are
    kept and come earlier -/
theorem kept_isChain (c : Chain) (hc : IsChain c) (st : St) (h : Inv c st) :
    ∀ m, m + 1 ≤ c.length → IsChain (keptPrefix c st.remove (m + 1)) := by
  intro m
  induction m with
  | zero =>
    intro _
    rw [keptPrefix_succ, if_neg fun hh => Nat.not_succ_le_zero 0 (h.rem 0 hh).1]
    show IsChain [at' c 0]
    rw [hc.2.1]; exact isChain_one
  | succ m ih =>
    intro hml
    have ihm := ih (Nat.le_of_succ_le hml)
    rw [keptPrefix_succ]
    split
    · exact ihm
    · rename_i hmr
      obtain ⟨o, ho⟩ := List.exists_mem_of_ne_nil _ (h.nonempty (m + 1) (Nat.le_add_left 1 m) hml hmr)
      obtain ⟨_, _, hmo⟩ := h.sub (m + 1) o ho
      have hav := h.avoid (m + 1) o ho
      obtain ⟨i, j⟩ := o
      obtain ⟨hij, hjm, hsum⟩ := (mem_ops c (m + 1) i j hml).1 hmo
      rw [← hsum]
      apply isChain_append_sum _ _ _ ihm
      · exact (mem_keptPrefix _ _ _ _).2 ⟨i, Nat.lt_of_le_of_lt hij hjm, fun hh => by simpa [uses] using hav i hh, rfl⟩
      · exact (mem_keptPrefix _ _ _ _).2 ⟨j, hjm, fun hh => by simpa [uses] using hav j hh, rfl⟩
      · rw [hsum]
        intro hmem
        obtain ⟨i', hi'm, _, he⟩ := (mem_keptPrefix _ _ _ _).1 hmem
        have := at'_inj c hc.2.2.2.1 (m + 1) i' hml (Nat.lt_trans hi'm hml) he
        exact Nat.lt_irrefl _ (this ▸ hi'm)

theorem filterMap_sublist_map {α β} (p : α → Bool) (g : α → β) : ∀ l : List α,
    (l.filterMap fun i => if p i then none else some (g i)).Sublist (l.map g)
  | [] => List.Sublist.slnil
  | a :: r => by
    simp only [List.filterMap_cons, List.map_cons]
    by_cases h : p a
    · simp only [h, if_true]; exact (filterMap_sublist_map p g r).cons _
    · simp only [h, Bool.false_eq_true, if_false]; exact (filterMap_sublist_map p g r).cons_cons _

theorem optimize_inv (c : Chain) (hc : IsChain c) :
    Inv c (((List.range (c.length - 1)).filter (0 < ·)).foldl (step c.length) (initSt c)) := by
  apply fold_inv c hc.2.2.2.1 _ _ (init_inv c hc)
  intro k hk
  obtain ⟨h1, h2⟩ := List.mem_filter.1 hk
  exact ⟨of_decide_eq_true h2, Nat.add_lt_of_lt_sub (List.mem_range.1 h1)⟩

/-- **C10 over the executable model** -/
theorem optimize_ok (c : Chain) (hc : IsChain c) :
    IsChain (optimize c) ∧ (optimize c).Sublist c ∧ (optimize c).head? = some 1 ∧
    (optimize c).getLast? = c.getLast? := by
  have hinv := optimize_inv c hc
  rw [optimize_eq]
  generalize ((List.range (c.length - 1)).filter (0 < ·)).foldl (step c.length) (initSt c) = fin at hinv
  obtain ⟨n, hn⟩ := Nat.exists_eq_add_one.2 (List.length_pos_iff.2 hc.1)
  have hchain : IsChain (keptPrefix c fin.remove c.length) := hn ▸ kept_isChain c hc fin hinv n (Nat.le_of_eq hn.symm)
  refine ⟨hchain, ?_, isChain_head _ hchain, ?_⟩
  · have := filterMap_sublist_map (fun i => fin.remove.contains i) (at' c ·) (List.range c.length)
    rwa [map_at'_range] at this
  · -- the last position is never removed
    have hl : n < c.length := hn ▸ Nat.lt_succ_self n
    rw [hn, keptPrefix_succ, if_neg fun hh => Nat.lt_irrefl _ (hn ▸ (hinv.rem n hh).2), List.getLast?_concat,
      List.getLast?_eq_getElem?, hn, Nat.add_sub_cancel, List.getElem?_eq_getElem hl, at'_eq_getElem c n hl]

end P.OptX
