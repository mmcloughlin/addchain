/-! C01 prototype: `dict.dictsumchain` — building the target from a sum sorted by exponent. -/
namespace P.DictSum

/-- `k` successive doublings of `cur` -/
def doubles : Nat → Nat → List Nat
  | 0, _ => []
  | k+1, cur => (2 * cur) :: doubles k (2 * cur)

/-- process the remaining terms (highest exponent first); `cur` currently stands at exponent `E` -/
def go (cur E : Nat) : List (Nat × Nat) → List Nat
  | [] => doubles E cur
  | (d, e) :: r =>
    let ds := doubles (E - e) cur
    let c1 := cur * 2 ^ (E - e)
    ds ++ [c1 + d] ++ go (c1 + d) e r

/-- `dictsumchain(sum)`: Go sorts `sum` by ascending exponent and walks it from the top down; `sumDesc` is
    that list reversed, so its head is the top term, whose dictionary entry is the starting value -/
def dictsumchain (sumDesc : List (Nat × Nat)) : List Nat :=
  match sumDesc with
  | [] => []
  | (d, e) :: r => go d e r

def lastOr (l : List Nat) (d : Nat) : Nat := l.getLast?.getD d

theorem lastOr_cons (x : Nat) (l : List Nat) (d : Nat) : lastOr (x :: l) d = lastOr l x := by
  unfold lastOr
  cases l with
  | nil => simp
  | cons a r =>
    simp only [List.getLast?_cons_cons]
    cases h : (a :: r).getLast? with
    | none => simp at h
    | some v => rfl

theorem lastOr_mem_cons (l : List Nat) (d : Nat) : lastOr l d ∈ d :: l := by
  unfold lastOr
  cases h : l.getLast? with
  | none => exact List.mem_cons_self
  | some v => exact List.mem_cons_of_mem _ (List.mem_of_getLast? h)

theorem le_lastOr (l : List Nat) (d : Nat) (h : ∀ y ∈ l, d ≤ y) : d ≤ lastOr l d := by
  rcases List.mem_cons.1 (lastOr_mem_cons l d) with e | hm
  · exact Nat.le_of_eq e.symm
  · exact h _ hm

theorem lastOr_append_mid (pre l : List Nat) (x d : Nat) :
    lastOr (pre ++ [x] ++ l) d = lastOr l x := by
  unfold lastOr
  simp only [List.getLast?_append, List.getLast?_singleton]
  cases l.getLast? <;> simp

theorem doubles_last : ∀ (k cur : Nat), lastOr (doubles k cur) cur = cur * 2 ^ k := by
  intro k
  induction k with
  | zero => intro cur; simp [doubles, lastOr]
  | succ k ih =>
    intro cur
    simp only [doubles]
    rw [lastOr_cons, ih (2 * cur), Nat.pow_succ, Nat.mul_comm 2 cur, Nat.mul_assoc, Nat.mul_comm 2]

/-- every doubling is the double of the element before it -/
theorem doubles_closed : ∀ (k cur : Nat) (y : Nat), y ∈ doubles k cur →
    ∃ x, (x = cur ∨ x ∈ doubles k cur) ∧ y = x + x := by
  intro k
  induction k with
  | zero => intro cur y h; simp [doubles] at h
  | succ k ih =>
    intro cur y h
    simp only [doubles, List.mem_cons] at h
    rcases h with rfl | h
    · exact ⟨cur, Or.inl rfl, by omega⟩
    · obtain ⟨x, hx, rfl⟩ := ih (2 * cur) y h
      refine ⟨x, ?_, rfl⟩
      rcases hx with rfl | hx
      · right; simp [doubles]
      · right; simp [doubles, hx]

def Desc : Nat → List (Nat × Nat) → Prop
  | _, [] => True
  | E, (_, e) :: r => e ≤ E ∧ Desc e r

def value (ts : List (Nat × Nat)) : Nat := (ts.map (fun t => t.1 * 2 ^ t.2)).sum

theorem go_spec : ∀ (ts : List (Nat × Nat)) (cur E : Nat), Desc E ts →
    (∀ y ∈ go cur E ts, ∃ x, (x = cur ∨ x ∈ go cur E ts) ∧
        (y = x + x ∨ ∃ t ∈ ts, y = x + t.1)) ∧
    lastOr (go cur E ts) cur = cur * 2 ^ E + value ts := by
  intro ts
  induction ts with
  | nil =>
    intro cur E _
    refine ⟨?_, by simp [go, value, doubles_last]⟩
    intro y hy
    obtain ⟨x, hx, he⟩ := doubles_closed E cur y hy
    exact ⟨x, hx, Or.inl he⟩
  | cons t r ih =>
    intro cur E hd
    obtain ⟨d, e⟩ := t
    obtain ⟨hle, hdr⟩ := hd
    obtain ⟨ihc, ihl⟩ := ih (cur * 2 ^ (E - e) + d) e hdr
    simp only [go]
    constructor
    · intro y hy
      simp only [List.mem_append, List.mem_singleton] at hy ⊢
      rcases hy with (hy | hy) | hy
      · obtain ⟨x, hx, he⟩ := doubles_closed (E - e) cur y hy
        exact ⟨x, hx.imp_right fun h => Or.inl (Or.inl h), Or.inl he⟩
      · -- the addition of the dictionary entry: to the last doubling, or to `cur` if there is none
        refine ⟨cur * 2 ^ (E - e), ?_, Or.inr ⟨(d, e), List.mem_cons_self, hy⟩⟩
        have := lastOr_mem_cons (doubles (E - e) cur) cur
        rw [doubles_last, List.mem_cons] at this
        exact this.imp_right fun h => Or.inl (Or.inl h)
      · obtain ⟨x, hx, he⟩ := ihc y hy
        exact ⟨x, Or.inr (hx.elim (fun h => Or.inl (Or.inr h)) Or.inr),
          he.imp_right fun ⟨t, ht, h⟩ => ⟨t, List.mem_cons_of_mem _ ht, h⟩⟩
    · rw [lastOr_append_mid, ihl]
      simp only [value, List.map_cons, List.sum_cons]
      have hp : 2 ^ E = 2 ^ (E - e) * 2 ^ e := by rw [← Nat.pow_add, Nat.sub_add_cancel hle]
      rw [Nat.add_mul, hp, Nat.mul_assoc, Nat.add_assoc]

end P.DictSum
