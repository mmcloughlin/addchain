import AC.Chain
/-! Facts about `IsChain` shared by the chain algorithms: what every addition chain satisfies, and
    the ways in which a list is shown to be one (the singleton, appending a sum of two members, an
    ascending sum-closed list). -/
namespace P

theorem isChain_head (c : Chain) (hc : IsChain c) : c.head? = some 1 := by
  obtain ⟨hne, h0, _⟩ := hc
  cases c with
  | nil => exact absurd rfl hne
  | cons x r => exact congrArg some h0

theorem isChain_pos (c : Chain) (hc : IsChain c) : ∀ k, k < c.length → 1 ≤ at' c k := by
  intro k
  induction k using Nat.strongRecOn with
  | _ k ih =>
    intro hk
    rcases Nat.eq_zero_or_pos k with rfl | hk0
    · exact Int.le_of_eq hc.2.1.symm
    · obtain ⟨i, j, hi, hj, hs⟩ := hc.2.2.2.2 k hk0 hk
      have hj1 : 0 ≤ at' c j := Int.le_trans (by decide) (ih j hj (Nat.lt_trans hj hk))
      exact hs ▸ Int.le_trans (ih i hi (Nat.lt_trans hi hk)) (Int.le_add_of_nonneg_right hj1)

theorem isChain_mem_pos (c : Chain) (hc : IsChain c) : ∀ x ∈ c, 1 ≤ x := by
  intro x hx
  obtain ⟨k, hk, rfl⟩ := index_of_mem c x hx
  exact isChain_pos c hc k hk

theorem isChain_one_mem (c : Chain) (hc : IsChain c) : (1 : Int) ∈ c :=
  hc.2.1 ▸ at'_mem_of_lt c 0 (List.length_pos_iff.2 hc.1)

theorem isChain_closed (c : Chain) (hc : IsChain c) : ∀ x ∈ c, x = 1 ∨ ∃ a ∈ c, ∃ b ∈ c, a + b = x := by
  intro x hx
  obtain ⟨k, hk, rfl⟩ := index_of_mem c x hx
  rcases Nat.eq_zero_or_pos k with rfl | hk0
  · exact Or.inl hc.2.1
  · obtain ⟨i, j, hi, hj, hs⟩ := hc.2.2.2.2 k hk0 hk
    exact Or.inr ⟨_, at'_mem_of_lt c i (Nat.lt_trans hi hk), _, at'_mem_of_lt c j (Nat.lt_trans hj hk), hs⟩

theorem isChain_one : IsChain [1] :=
  ⟨List.cons_ne_nil _ _, rfl, by decide, (List.pairwise_singleton _ _),
    fun k hk0 hkl => absurd hkl (Nat.not_lt.mpr hk0)⟩

theorem isChain_append_sum (c : List Int) (a b : Int) (hc : IsChain c) (ha : a ∈ c) (hb : b ∈ c)
    (hnew : a + b ∉ c) : IsChain (c ++ [a + b]) := by
  have hpos : 0 < a + b := Int.add_pos (isChain_mem_pos c hc a ha) (isChain_mem_pos c hc b hb)
  obtain ⟨hne, h0, hz, hnd, hops⟩ := hc
  have old : ∀ i, i < c.length → at' (c ++ [a + b]) i = at' c i := at'_append_left c _
  refine ⟨List.append_ne_nil_of_left_ne_nil hne _, (old 0 (List.length_pos_iff.mpr hne)).trans h0,
    fun h => ?_, List.nodup_append.mpr ⟨hnd, List.pairwise_singleton _ _, fun x hx y hy e => ?_⟩,
    fun k hk0 hkl => ?_⟩
  · rcases List.mem_append.mp h with h | h
    · exact hz h
    · exact Int.ne_of_gt hpos (List.mem_singleton.1 h).symm
  · exact hnew (List.mem_singleton.1 hy ▸ e ▸ hx)
  · rw [List.length_append, List.length_singleton] at hkl
    rcases Nat.eq_or_lt_of_le (Nat.le_of_lt_succ hkl) with rfl | hk
    · obtain ⟨i, hi, rfl⟩ := index_of_mem c a ha
      obtain ⟨j, hj, rfl⟩ := index_of_mem c b hb
      exact ⟨i, j, hi, hj, by rw [old i hi, old j hj, at'_append_last]⟩
    · obtain ⟨i, j, hi, hj, hsum⟩ := hops k hk0 hk
      exact ⟨i, j, hi, hj, by rw [old i (Nat.lt_trans hi hk), old j (Nat.lt_trans hj hk), old k hk, hsum]⟩

theorem isChain_snoc (c : List Int) (a b : Int) (hc : IsChain c) (ha : a ∈ c) (hb : b ∈ c)
    (hnew : a + b ∉ c) (hnz : a + b ≠ 0) : IsChain (c ++ [a + b]) :=
  have _ := hnz -- holds anyway: members are positive
  isChain_append_sum c a b hc ha hb hnew

theorem isChain_snoc_above (c : List Int) (a b : Int) (hc : IsChain c) (ha : a ∈ c) (hb : b ∈ c)
    (hlt : ∀ y ∈ c, y < a + b) : IsChain (c ++ [a + b]) :=
  isChain_append_sum c a b hc ha hb fun h => Int.lt_irrefl _ (hlt _ h)

theorem chain_of_closed (c : List Int) (hasc : c.Pairwise (· < ·)) (hpos : ∀ x ∈ c, 0 < x)
    (h1 : c.head? = some 1)
    (hcl : ∀ x ∈ c, x = 1 ∨ ∃ a ∈ c, ∃ b ∈ c, a + b = x) : IsChain c := by
  cases c with
  | nil => cases h1
  | cons x r =>
    obtain rfl : x = 1 := Option.some.inj h1
    refine ⟨List.cons_ne_nil _ _, rfl, fun hz => Int.lt_irrefl 0 (hpos 0 hz),
      hasc.imp Int.ne_of_lt, fun k hk0 hkl => ?_⟩
    have hgt : 1 < at' (1 :: r) k := at'_lt_of_pairwise _ hasc 0 k hk0 hkl
    rcases hcl _ (at'_mem_of_lt _ k hkl) with h | ⟨a, ha, b, hb, hab⟩
    · exact absurd h (Int.ne_of_gt hgt)
    · obtain ⟨i, hi, rfl⟩ := index_of_mem _ a ha
      obtain ⟨j, hj, rfl⟩ := index_of_mem _ b hb
      -- both summands are positive, so each is below `c[k]` and hence sits at an earlier position
      exact ⟨i, j, lt_of_at'_lt _ hasc i k hi (hab ▸ Int.lt_add_of_pos_right _ (hpos _ hb)),
        lt_of_at'_lt _ hasc j k hj (hab ▸ Int.lt_add_of_pos_left _ (hpos _ ha)), hab⟩

end P
