import AC.HeurSound
/-! C08/C15 prototype: the Bos–Coster loop terminates and a total heuristic never fails. -/
namespace P

/-- a heuristic that always has a suggestion on well-formed protosequences -/
def Total (sg : Suggest) : Prop := ∀ f t, ProtoOK f t → sg f t ≠ none

theorem loop_total (sg : Suggest) (hs : Sound sg) (htot : Total sg) (T : List Int) :
    ∀ (fuel : Nat) (proto c : List Int), LoopInv T proto c → (proto.getLastD 0).toNat ≤ fuel →
    ∃ r, loop sg (fuel + 1) proto c = some r := by
  intro fuel proto c hI hf
  -- any fuel `fu` above the maximum will do
  generalize hfu : fuel + 1 = fu
  replace hf : (proto.getLastD 0).toNat < fu := hfu ▸ Nat.lt_succ_of_le hf
  clear hfu
  fun_induction loop sg fu proto c with
  | case1 => exact absurd hf (Nat.not_lt_zero _)
  | case2 fu proto c hlen => exact ⟨c, rfl⟩
  | case3 fu proto c hlen t proto' hsg => exact absurd hsg (htot _ _ (hI.protoOK (Nat.lt_of_not_le hlen)))
  | case4 fu proto c hlen t proto' ins hsg ih =>
    have hlen : 2 < proto.length := Nat.lt_of_not_le hlen
    have hpok := hI.protoOK hlen
    have hI' := loop_step_inv sg hs T proto c ins hI hlen hsg
    refine ih hI' ?_
    -- the new maximum is a positive member of `proto.dropLast` or of `ins`, all below the old one
    have hm := getLastD_mem _ (List.ne_nil_of_mem hI'.one)
    have hpos := hI'.ppos _ hm
    obtain ⟨_, hib, _⟩ := hs _ _ ins hpok hsg
    have hlt : (mergeUnique proto.dropLast ins).getLastD 0 < proto.getLastD 0 := by
      rcases (mem_mergeUnique _ _ _).1 hm with h | h
      · exact hpok.top _ h
      · exact (hib _ h).2
    have h0 : 0 < proto.getLastD 0 := Int.lt_trans (Int.lt_of_lt_of_le Int.zero_lt_one hpos) hlt
    exact Nat.lt_of_lt_of_le ((Int.toNat_lt_toNat h0).2 hlt) (Nat.le_of_lt_succ hf)

theorem total_delta : Total suggestDelta := fun _ _ _ => Option.some_ne_none _
theorem total_approx : Total suggestApprox := fun _ _ _ => Option.some_ne_none _
theorem total_first_of_mem (sgs : List Suggest) (sg : Suggest) (hm : sg ∈ sgs) (ht : Total sg) :
    Total (suggestFirst sgs) := by
  intro f t hp
  fun_induction suggestFirst sgs f t with
  | case1 => cases hm
  | case2 => exact Option.some_ne_none _
  | case3 s r f t hs ih =>
    rcases List.mem_cons.mp hm with rfl | hm'
    · exact absurd hs (ht f t hp)
    · exact ih hm' hp

/-- **C08, heuristic half, with totality**: with a sound and total heuristic the search always returns
    a valid chain containing the targets (fuel = largest target suffices). -/
theorem findSequence_total (sg : Suggest) (hs : Sound sg) (htot : Total sg) (T : List Int)
    (hT : ∀ x ∈ T, 1 ≤ x) (fuel : Nat)
    (hf : ((sortUniq ([1, 2] ++ T)).getLastD 0).toNat ≤ fuel) :
    ∃ c, findSequence sg (fuel + 1) T = some c ∧ IsChain c ∧ ∀ x ∈ T, x ∈ c := by
  by_cases h1 : T = [1]
  · have h : findSequence sg (fuel + 1) T = some [1] := if_pos h1
    exact ⟨[1], h, findSequence_ok sg hs (fuel + 1) T [1] hT h⟩
  · obtain ⟨r, hr⟩ := loop_total sg hs htot T fuel _ [] (LoopInv.init T hT) hf
    have h : findSequence sg (fuel + 1) T = some (mergeUnique [1, 2] r) := by
      unfold findSequence
      rw [if_neg h1, hr]; rfl
    exact ⟨_, h, findSequence_ok sg hs (fuel + 1) T _ hT h⟩

end P
