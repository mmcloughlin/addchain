import AC.HeurSound
/-! C08 (continued-fraction half) prototype: model of contfrac.go on positive integers. -/
namespace P

inductive Strategy | binary | coBinary | dichotomic | sqrt | total | dyadic | fermat
deriving Repr, DecidableEq

def dyadicK : Nat → Int → List Int
  | 0, _ => []
  | f+1, k => if k > 1 then k :: dyadicK f (k / 2) else []
def fermatK : Nat → Int → Nat → List Int
  | 0, _, _ => []
  | f+1, k, s => if k > 1 then k :: fermatK f (k / (2 : Int) ^ s) (2 * s) else []

def Strategy.K : Strategy → Int → List Int
  | .binary, n => [n / 2]
  | .coBinary, n => [(if n % 2 = 1 then n + 1 else n) / 2]
  | .dichotomic, n => [n / (2 : Int) ^ (bitLenN n.toNat / 2)]
  | .sqrt, n => [Int.ofNat (Nat.sqrt n.toNat)]
  | .total, n => List.map (fun (i : Nat) => Int.ofNat i + 2) (List.range (n.toNat - 2))
  | .dyadic, n => dyadicK (bitLenN n.toNat) (n / 2)
  | .fermat, n => fermatK (bitLenN n.toNat) (n / 2) 1

def isPow2 (n : Int) : Bool := decide (0 < n) && n == 2 ^ (bitLenN n.toNat - 1)
def pow2UpTo (n : Int) : List Int := (List.range (bitLenN n.toNat)).map (fun e => (2 : Int) ^ e)

def product (a b : List Int) : List Int := a ++ (b.drop 1).map (a.getLastD 1 * ·)
def plus (a : List Int) (x : Int) : List Int := a ++ [a.getLastD 1 + x]

def better (best : Option (List Int)) (c : List Int) : Option (List Int) :=
  match best with
  | none => some c
  | some m => if c.length < m.length then some c else some m

mutual
/-- `none` = out of fuel, or the Go code would not terminate (`k` outside `[2, n)`) or would
    return a nil chain (empty `K`) -/
def minchain (s : Strategy) : Nat → Int → Option (List Int)
  | 0, _ => none
  | f+1, n =>
    if isPow2 n then some (pow2UpTo n)
    else if n = 3 then some [1, 2, 3]
    else minLoop s f n (s.K n) none
def minLoop (s : Strategy) : Nat → Int → List Int → Option (List Int) → Option (List Int)
  | 0, _, _, _ => none
  | _+1, _, [], best => best
  | f+1, n, k :: ks, best =>
    if 2 ≤ k ∧ k < n then
      match chain s f [k, n] with
      | none => none
      | some c => minLoop s f n ks (better best c)
    else none
def chain (s : Strategy) : Nat → List Int → Option (List Int)
  | 0, _ => none
  | f+1, ns =>
    let n := ns.getLastD 0
    let rest := ns.dropLast
    if rest = [] ∨ rest.getLastD 0 ≤ 1 then minchain s f n
    else
      let m := rest.getLastD 0
      let q := n / m
      let r := n % m
      match minchain s f q with
      | none => none
      | some cq =>
        if r = 0 then (chain s f rest).map (product · cq)
        else (chain s f (insertSortedUnique rest r)).map (fun c => plus (product c cq) r)
end

end P
