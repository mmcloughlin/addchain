import AC.ProgramTie
import AC.BigintTie
import AC.Binary
import AC.GoAlg
/-! # The translated `binary.RightToLeft.FindChain` equals the model (C01 translator tie)

`binaryRightToLeftFindChain` of `AC/Gen/ProgramFns.lean` is regenerated from alg/binary/binary.go on every
run; the pointer `var x *big.Int` that starts out nil is an `Option`. The model is `P.Binary.rtl`, which
`C01_binary` is stated over. -/
namespace AC.BinaryTie
open AC.Gen.Program AC.GoPrim AC.BigPrim P

def oI (x : Option Nat) : Option Int := x.map fun (v : Nat) => (v : Int)

theorem div_two_pow_ne_zero (n i : Nat) (hn : n ≠ 0) (hi : i ≤ Nat.log2 n) : n / 2 ^ i ≠ 0 :=
  Nat.div_ne_zero_iff.2 ⟨Nat.ne_of_gt (Nat.two_pow_pos i),
    Nat.le_trans (Nat.pow_le_pow_right (by decide) hi) (Nat.log2_self_le hn)⟩

/-- round `i` of the loop: `b` is `n` shifted right `i` times, so its lowest bit is bit `i` of `n`, and
    `d` is `2^i`; `b` is non-zero exactly as long as `i ≤ log2 n` -/
theorem loop_tie (n : Nat) (hn : n ≠ 0) : ∀ (k i : Nat) (c : List Int) (x : Option Nat),
    i + k = Nat.log2 n + 1 →
    binaryRightToLeftFindChain_loop1 (k + 1) (n : Int) c ((n / 2 ^ i : Nat) : Int) ((2 ^ i : Nat) : Int) (oI x) =
      some (rtlGo n k i c x, goNil) := by
  intro k
  induction k with
  | zero =>
    intro i c x hi
    rw [Nat.add_zero] at hi
    rw [hi, Nat.div_eq_of_lt Nat.lt_log2_self]
    rfl
  | succ k ih =>
    intro i c x hi
    have hle : i ≤ Nat.log2 n :=
      Nat.le_of_lt_succ (Nat.lt_of_lt_of_eq (Nat.lt_add_of_pos_right (Nat.succ_pos k)) hi)
    have hnz : AC.Gen.Bigint.isNonZero ((n / 2 ^ i : Nat) : Int) = true :=
      (AC.BigintTie.isNonZero_iff _).2 (Int.natCast_ne_zero.2 (div_two_pow_ne_zero n i hn hle))
    have hbit : bBit ((n / 2 ^ i : Nat) : Int) 0 = some (if n.testBit i then 1 else 0) := by
      have := bBit_natCast (n / 2 ^ i) 0
      rw [Nat.testBit_div_two_pow, Nat.zero_add] at this; exact this
    have ih := fun c x => ih (i + 1) c x ((Nat.add_right_comm ..).trans hi)
    rw [Nat.pow_succ, ← Nat.div_div_eq_div_mul, Nat.mul_comm] at ih
    rw [binaryRightToLeftFindChain_loop1]
    simp only [hnz, if_true, hbit, bRsh_one, bLsh_natCast_one, go_simp, rtlGo]
    -- the cases of `x` are reduced before `ih` is applied: unifying an `if` with the loop unfolds the loop
    by_cases hb : n.testBit i = true
    · rw [if_pos hb, if_pos rfl, if_pos hb]
      cases x with
      | none => rw [if_pos (show (oI none).isNone = true from rfl)]; exact ih _ (some (2 ^ i))
      | some xv =>
        simp only [oI, Option.map_some, Option.isNone_some, Bool.false_eq_true, if_false, Option.bind_some]
        exact ih _ (some (xv + 2 ^ i))
    · rw [if_neg hb, if_neg (by decide), if_neg hb]
      exact ih _ x

theorem rtl_tie (n : Nat) (hn : 1 ≤ n) :
    binaryRightToLeftFindChain (n : Int) = some (rtl n, goNil) := by
  have hne : n ≠ 0 := Nat.ne_of_gt hn
  have := loop_tie n hne (Nat.log2 n + 1) 0 [] none (Nat.zero_add _)
  rw [Nat.pow_zero, Nat.div_one] at this
  show binaryRightToLeftFindChain_loop1 (bBitLen (n : Int) + 1).toNat n [] n 1 none = _
  rw [bBitLen_pos n hne, Int.toNat_natCast_add_one]
  exact this

end AC.BinaryTie
