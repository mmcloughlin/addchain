import AC.ExecTrace
import AC.ExecComplete
/-! # C12 — parallel execution equals sequential execution under every schedule

Model: `P.ExecT` (AC/ExecTrace.lean), the labelled transition system of
`exec.Parallel.Execute` for `k` algorithms and concurrency limit `L`: main
`spawning j | waiting w | returned`, channel occupancy `tokens`, worker phases
`idle → spawned → started → running → finished → stored → doneLogged → released`, result slots
(`rs[i] = some i` stands for "slot i holds `Execute(n, aᵢ)`"). `Reach k L s` = there is a finite
execution (any interleaving of main and the workers, any completion order) from `init k` to `s`.
All statements are for every `k`, every `L` and every schedule (induction over executions).

Outside the model (DESIGN §8): that Go's buffered channel implements the token accounting, the Go
scheduler, the memory model and the absence of data races; these are tied by trace validation
(`accepts`, driven by the harness) and by race-detector runs. -/
namespace AC.Props.C12
open P.ExecT

/-- channel occupancy = tokens held by workers that have been spawned and have not yet released +
    tokens re-acquired by main in the closing loop; and it never exceeds the capacity `L` -/
theorem C12_tokens_inv {k L : Nat} {s : St} (h : Reach k L s) :
    s.tokens = nHolding s + mainHeld L s.main ∧ s.tokens ≤ L :=
  ⟨(inv_reach h).tok, (inv_reach h).tok_le⟩

/-- in every reachable state at most `L` workers are between acquiring a token and releasing it;
    in particular at most `L` algorithms are inside `FindChain` -/
theorem C12_limit {k L : Nat} {s : St} (h : Reach k L s) : nHolding s ≤ L ∧ nRunning s ≤ L :=
  ⟨limit_respected h, Nat.le_trans (nRunning_le_nHolding s) (limit_respected h)⟩

/-- once main has returned, every slot `i` holds the result of algorithm `i` and every worker has
    finished and released its token -/
theorem C12_return {k L : Nat} {s : St} (h : Reach k L s) (hr : s.main = .returned) :
    ∀ i, i < k → s.rs[i]? = some (some i) ∧ s.ph[i]? = some .released :=
  return_complete h hr

/-- deadlock freedom: with `L ≥ 1` every reachable state in which main has not returned has an
    enabled step -/
theorem C12_progress {k L : Nat} (hL : 1 ≤ L) {s : St} (h : Reach k L s) (hn : s.main ≠ .returned) :
    ∃ a t, Step k L s a t :=
  progress hL h hn

/-- with `L = 0` and at least one algorithm the initial state is stuck: `Execute` never returns
    (the `-p 0` hang) -/
theorem C12_limit_zero_blocks {k : Nat} (hk : 1 ≤ k) : ¬ ∃ a t, Step k 0 (init k) a t :=
  limit_zero_blocks hk

/-- executions share no result slot: the only step that changes slot `j` is worker `j`'s store,
    and it writes the result of algorithm `j` -/
theorem C12_slots {k L : Nat} {s t : St} {a : Act} (h : Step k L s a t) (j : Nat)
    (hne : t.rs[j]? ≠ s.rs[j]?) : a = .store j ∧ t.rs[j]? = some (some j) :=
  slots_private h j hne

/-- a trace accepted by the (executable) acceptance function is the observable part of an
    execution of the LTS from `init` that ends with main returned — so every theorem above applies
    to the states it passes through -/
theorem C12_accepts_sound {k L : Nat} {tr : List Event} (h : accepts k L tr = none) :
    ∃ as s, Exec k L (init k) as s ∧ as.filterMap obs = tr ∧ s.main = .returned ∧
      ∀ i, i < k → s.rs[i]? = some (some i) := by
  obtain ⟨as, s, hx, ho, hr⟩ := accepts_sound h
  exact ⟨as, s, hx, ho, hr, fun i hi => (return_complete ⟨as, hx⟩ hr i hi).1⟩

/-- on an accepted trace, at every prefix the number of algorithms that have entered `FindChain`
    and not left it is at most `L` -/
theorem C12_accepted_limit {k L : Nat} {tr : List Event} (h : accepts k L tr = none) :
    ∀ p, p <+: tr → nRun p ≤ nFin p + L :=
  accepted_limit h

/-- **the acceptor is complete**: the observable trace of EVERY execution of the LTS (any interleaving of
    main and the workers, any completion order) from `init` that ends with main returned is accepted —
    so a trace recorded from an implementation that behaves like the LTS is never rejected -/
theorem C12_accepts_complete {k L : Nat} {as : List Act} {s : St} (h : Exec k L (init k) as s)
    (hret : s.main = .returned) : accepts k L (as.filterMap obs) = none :=
  accepts_complete h hret

/-- soundness and completeness together: the executable acceptor decides exactly "is the observable
    trace of a complete execution of the model of `exec.Parallel.Execute`" -/
theorem C12_accepts_iff {k L : Nat} (tr : List Event) :
    accepts k L tr = none ↔
      ∃ as s, Exec k L (init k) as s ∧ as.filterMap obs = tr ∧ s.main = .returned :=
  accepts_iff tr

/-- non-vacuity: two algorithms, limit 1 — the acceptor runs through a concrete trace, hence a
    reachable returned state -/
example : ∃ s, Reach 2 1 s ∧ s.main = .returned ∧ s.rs = [some 0, some 1] :=
  have ⟨as, hx, _⟩ := runEv_sound
    [.start 0, .run 0, .fin 0, .done 0, .start 1, .run 1, .fin 1, .done 1, .ret] (init 2)
    ⟨.returned, 1, [.released, .released], [some 0, some 1]⟩ rfl
  ⟨_, ⟨as, hx⟩, rfl, rfl⟩

/-- non-vacuity of the interleavings: with limit 2 the two runs may overlap and finish in the
    other order -/
example : accepts 2 2 [.start 0, .start 1, .run 1, .run 0, .fin 1, .done 1, .fin 0, .done 0, .ret]
    = none := by decide

/-- negative self-test of the acceptance function: with limit 1 two overlapping runs are rejected
    (worker 1 cannot have been spawned while worker 0 still holds the only token) -/
example : accepts 2 1 [.start 0, .run 0, .start 1, .run 1, .fin 0, .fin 1, .done 0, .done 1, .ret]
    = some 2 := by decide

/-- negative self-tests, each rejected at the index shown: `ret` before worker 1 is done; `ret`
    while worker 1 has not been spawned; a `run` without `start`; a `start` with limit 0; a trace
    that is executable but stops before `ret` -/
example : accepts 2 2 [.start 0, .start 1, .run 0, .run 1, .fin 0, .done 0, .ret] = some 6 := by decide
example : accepts 2 2 [.start 0, .run 0, .fin 0, .done 0, .ret] = some 4 := by decide
example : accepts 1 1 [.run 0] = some 0 := by decide
example : accepts 1 0 [.start 0] = some 0 := by decide
example : accepts 1 1 [.start 0, .run 0, .fin 0, .done 0] = some 4 := by decide

end AC.Props.C12
