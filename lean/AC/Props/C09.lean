import AC.DecompProof
import AC.Guards
import AC.DecompTie
/-! # C09 — dictionary decompositions represent the target exactly and without overlap

Model: `P.Bits.decompose` (the four `Decompose` methods of alg/dict/dict.go followed by
`SortByExponent`), `P.Bits.dictionary`. `Below a b` says `a.d·2^a.e < 2^b.e`: `a`'s bit range ends
below `b`'s exponent; a list that is `Pairwise Below` has strictly increasing exponents and pairwise
disjoint bit ranges. -/
namespace AC.Props.C09
open P P.Bits

private theorem sep_of_rev {l : List Term} (h : l.Pairwise (fun a b => b.d * 2 ^ b.e < 2 ^ a.e)) :
    l.Pairwise Sep := h.imp (fun h => Or.inr h)

/-- common conclusion: after sorting, exact sum, every term below every later one -/
private theorem finish (l : List Term) (x : Nat) (hv : value l = x) (hpos : ∀ t ∈ l, 0 < t.d)
    (hsep : l.Pairwise Sep) : value (sortByE l) = x ∧ (sortByE l).Pairwise Below :=
  ⟨by rw [value_perm (sortByE_perm l), hv], sortByE_below l hpos hsep⟩

/-- fixed window: exact, non-overlapping, at most `K` bits -/
theorem C09_fixed (x K T : Nat) (hK : 1 ≤ K) :
    value (decompose .fixed x K T) = x ∧ (decompose .fixed x K T).Pairwise Below ∧
    ∀ t ∈ decompose .fixed x K T, 0 < t.d ∧ t.d < 2 ^ K := by
  obtain ⟨h1, h2, h3⟩ := fixedW_spec x K hK (Nat.log2 x + 1) (Nat.log2 x + 1) (Nat.le_refl _)
  rw [Nat.mod_eq_of_lt Nat.lt_log2_self] at h1
  obtain ⟨a, b⟩ := finish _ x h1 (fun t ht => (h2 t ht).1) (sep_of_rev h3)
  exact ⟨a, b, fun t ht => ⟨(h2 t ((sortByE_perm _).subset ht)).1, (h2 t ((sortByE_perm _).subset ht)).2.1⟩⟩

/-- sliding window: exact, non-overlapping, odd, at most `K` bits -/
theorem C09_sliding (x K T : Nat) (hK : 1 ≤ K) :
    value (decompose .sliding x K T) = x ∧ (decompose .sliding x K T).Pairwise Below ∧
    ∀ t ∈ decompose .sliding x K T, 0 < t.d ∧ t.d % 2 = 1 ∧ t.d < 2 ^ K := by
  obtain ⟨h1, h2, h3⟩ := sliding_spec x K hK (Nat.log2 x + 1) (Nat.log2 x + 1) (Nat.le_refl _)
  rw [Nat.mod_eq_of_lt Nat.lt_log2_self] at h1
  obtain ⟨a, b⟩ := finish _ x h1 (fun t ht => (h2 t ht).2.2.2) (sep_of_rev h3)
  refine ⟨a, b, fun t ht => ?_⟩
  have := h2 t ((sortByE_perm _).subset ht)
  exact ⟨this.2.2.2, this.1, this.2.1⟩

/-- run length: exact, non-overlapping, all-ones of length at most `T` when `T > 0` -/
theorem C09_runLength (x K T : Nat) :
    value (decompose .runLength x K T) = x ∧ (decompose .runLength x K T).Pairwise Below ∧
    ∀ t ∈ decompose .runLength x K T, ∃ n, 1 ≤ n ∧ t.d = 2 ^ n - 1 ∧ (0 < T → n ≤ T) := by
  obtain ⟨h1, h2, h3⟩ := runLen_spec x T (Nat.log2 x + 1) (Nat.log2 x + 1) (Nat.le_refl _)
  rw [Nat.mod_eq_of_lt Nat.lt_log2_self] at h1
  have hpos : ∀ t ∈ runLen x T (Nat.log2 x + 1) (Nat.log2 x + 1), 0 < t.d := by
    intro t ht
    obtain ⟨n, hn, hd, _⟩ := h2 t ht
    exact hd ▸ Nat.sub_pos_of_lt (Nat.one_lt_two_pow (Nat.ne_of_gt hn))
  obtain ⟨a, b⟩ := finish _ x h1 hpos (sep_of_rev h3)
  refine ⟨a, b, fun t ht => ?_⟩
  obtain ⟨n, hn, hd, hT, _⟩ := h2 t ((sortByE_perm _).subset ht)
  exact ⟨n, hn, hd, hT⟩

/-- hybrid: exact, non-overlapping, odd, and either at most `K` bits or an all-ones run longer
    than `K` (and at most `T` when `T > 0`) -/
theorem C09_hybrid (x K T : Nat) (hK : 1 ≤ K) :
    value (decompose .hybrid x K T) = x ∧ (decompose .hybrid x K T).Pairwise Below ∧
    ∀ t ∈ decompose .hybrid x K T, 0 < t.d ∧ t.d % 2 = 1 ∧
      (t.d < 2 ^ K ∨ ∃ n, K < n ∧ t.d = 2 ^ n - 1 ∧ (0 < T → n ≤ T)) := by
  obtain ⟨h1, h2⟩ := hybrid_spec x K T hK
  have hpos : ∀ t ∈ hybrid x K T, 0 < t.d := fun t ht =>
    Nat.pos_of_ne_zero fun h => by have := (h2 t ht).1; rw [h] at this; cases this
  obtain ⟨a, b⟩ := finish _ x h1 hpos (hybrid_sep x K T hK)
  exact ⟨a, b, fun t ht => have hm := (sortByE_perm _).subset ht; ⟨hpos t hm, h2 t hm⟩⟩

/-- `Pairwise Below` with positive `d` means: exponents strictly increasing -/
theorem C09_exponents_increasing (s : List Term) (hpos : ∀ t ∈ s, 0 < t.d) (h : s.Pairwise Below) :
    s.Pairwise (fun a b => a.e < b.e) := by
  induction h with
  | nil => exact List.Pairwise.nil
  | cons hx _ ih =>
    exact List.Pairwise.cons (fun b hb => below_exp_lt (hpos _ List.mem_cons_self) (hx b hb))
      (ih (fun t ht => hpos t (List.mem_cons_of_mem _ ht)))

/-- the derived dictionary is the strictly sorted list of the distinct `d` -/
theorem C09_dictionary (s : List Term) :
    (dictionary s).Pairwise (· < ·) ∧ ∀ a, a ∈ dictionary s ↔ ∃ t ∈ s, (t.d : Int) = a := by
  unfold dictionary
  refine ⟨pairwise_sortUniq _, fun a => ?_⟩
  rw [mem_sortUniq, List.mem_map]

/-- a decomposition of `x ≥ 1` is never empty (what `dictsumchain` indexes) -/
theorem C09_nonempty (m : Method) (x K T : Nat) (hx : 1 ≤ x) (hK : 1 ≤ K) : decompose m x K T ≠ [] := by
  have hv : value (decompose m x K T) = x := by
    cases m
    · exact (C09_fixed x K T hK).1
    · exact (C09_sliding x K T hK).1
    · exact (C09_runLength x K T).1
    · exact (C09_hybrid x K T hK).1
  exact nonempty_of_value _ x hx hv

/-- non-vacuity: a hybrid decomposition with a long run and a window -/
example : decompose .hybrid 0b1111101 2 0 = [⟨1, 0⟩, ⟨31, 2⟩] := by decide

/-! ## `FixedWindow.Decompose` as TRANSLATED from dict.go

`AC/Gen/ProgramFns.lean` is regenerated from alg/dict/dict.go on every run (harness/cmd/extract/gotr.go);
`AC/DecompTie.lean` proves the translated function equal to the model (`fixedWindow_tie`; the loop
`for h > 0 {…}` on a fuel counter that is never exhausted, `Sum.SortByExponent` as the primitive sort). -/

/-- the translated `FixedWindow{K}.Decompose(x)`, `x ≥ 1`, `K ≥ 1`: never panics, and its terms are exact
    (they sum to `x`), pairwise non-overlapping in increasing exponent order, with `0 < d < 2^K` -/
theorem C09_src_fixed (x K : Nat) (hx : 1 ≤ x) (hK : 1 ≤ K) :
    ∃ s : List Term, AC.Gen.Program.dictFixedWindowDecompose K (x : Int) = some (AC.DecompTie.toGTs s) ∧
      value s = x ∧ s.Pairwise Below ∧ ∀ t ∈ s, 0 < t.d ∧ t.d < 2 ^ K :=
  ⟨_, AC.DecompTie.fixedWindow_tie x K hx hK, C09_fixed x K 0 hK⟩

/-- the translated `Sum.Int` on any sum of natural terms: never panics and returns Σ d·2^e, the `value`
    all the exactness theorems of this file are stated over -/
theorem C09_src_sumInt (s : List Term) :
    AC.Gen.Program.dictSumInt (AC.DecompTie.toGTs s) = some ((value s : Nat) : Int) :=
  AC.DecompTie.sumInt_tie s

/-- the translated `Sum.Dictionary` on any sum: never panics and returns the strictly ascending list of
    exactly the `d` that occur -/
theorem C09_src_dictionary (s : List Term) :
    ∃ d : List Int, AC.Gen.Program.dictSumDictionary (AC.DecompTie.toGTs s) = some d ∧
      d.Pairwise (· < ·) ∧ ∀ a, a ∈ d ↔ ∃ t ∈ s, (t.d : Int) = a :=
  ⟨_, AC.DecompTie.dictionary_tie s, C09_dictionary s⟩

/-- the two translated functions composed, as `TestDecomposersRandom` composes them in Go:
    `FixedWindow{K}.Decompose(x).Int()` is `x` for every `x ≥ 1`, `K ≥ 1` -/
theorem C09_src_fixed_sum (x K : Nat) (hx : 1 ≤ x) (hK : 1 ≤ K) :
    (AC.Gen.Program.dictFixedWindowDecompose K (x : Int)).bind AC.Gen.Program.dictSumInt = some (x : Int) := by
  rw [AC.DecompTie.fixedWindow_tie x K hx hK, Option.bind_some, AC.DecompTie.sumInt_tie,
    (C09_fixed x K 0 hK).1]

end AC.Props.C09
