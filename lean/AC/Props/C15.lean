import AC.Props.C09
import AC.Props.C12
import AC.HeurSound
import AC.BuildX
import AC.CalcTotal
/-! # C15 — every input ends in a result or a diagnostic

The models return explicit outcomes and Lean accepts their recursion, so *termination with an
outcome* of a model is its type.  What has to be shown per entry point is that the outcome is never
a panic / a blocked state: one **guard lemma** per partial operation of the Go code (index
expression, slice expression, explicit `panic(…)`, division, channel creation), as listed by the
extractor's partial-operation inventory (`expect/panic_sites.txt`).  This file restates the guard
lemmas that exist, each naming the Go site it guards.  Outside the model (DESIGN §8): stack
exhaustion, out-of-memory, shifts by astronomically large literals, the scheduler. -/
namespace AC.Props.C15
open P

/-- guards `sum[len(sum)-1]` in `dictsumchain`-style code of alg/dict/dict.go (`Algorithm.FindChain`
    indexes the last term of the decomposition): the decomposition of a target `x ≥ 1` by any of the
    four decomposers (window `K ≥ 1`) is never empty.  (`x = 0` — the former `search 0` panic F5 —
    is excluded by search.go's `n.Sign() <= 0` check.) -/
theorem C15_decompose_nonempty (m : Bits.Method) (x K T : Nat) (hx : 1 ≤ x) (hK : 1 ≤ K) :
    Bits.decompose m x K T ≠ [] :=
  AC.Props.C09.C09_nonempty m x K T hx hK

/-- guards `f[n-1]` and `panic("delta must be positive")` in
    `heuristic.DeltaLargest.Suggest` (alg/heuristic/heuristic.go): for a protosequence as maintained by
    the Bos–Coster loop (contains 1 and 2, ascending, every element below the target) the sequence is
    non-empty and `target − largest` is positive -/
theorem C15_delta_positive (f : List Int) (t : Int) (h : ProtoOK f t) :
    f ≠ [] ∧ 0 < t - f.getLastD 0 := by
  have hne := protoOK_ne_nil h
  have hm := getLastD_mem f hne
  have := h.top _ hm
  exact ⟨hne, by omega⟩

/-- guards `b.prog.Statements[len-1]` at the end of `builder.process` (acc/build.go; the F1 panic
    before the fix): the statement list after `finish` is never empty, so a successful `Build`
    returns at least one statement (`return 1` for an empty program) -/
theorem C15_build_nonempty (ir : BuildX.IR) (s : BuildX.Script) (h : BuildX.buildX ir = .ok s) : s ≠ [] := by
  have hf : ∀ l : List P.Sem.Stmt, BuildX.finish l ≠ [] := by
    intro l
    cases l with
    | nil => simp [BuildX.finish]
    | cons a r => simp [BuildX.finish]
  unfold BuildX.buildX at h
  split at h
  · cases h
  · split at h
    · cases h
    · injection h with h; subst h; exact hf _

/-- guards `big.Int.Div` in `yard.apply` (internal/calc/calc.go; the F4 panic before the fix) and
    the stack pops of `yard.operator`/`yard.result`: the model of `calc.Eval` returns a value, an
    error or the error "division by zero" for *every* string, and the latter only when the machine
    applied a division to a zero divisor -/
theorem C15_calc_total (s : List Char) :
    ((∃ v, AC.Calc.eval s = .ok v) ∨ AC.Calc.eval s = .err ∨ AC.Calc.eval s = AC.Calc.Outcome.divzero) ∧
    (AC.Calc.eval s = AC.Calc.Outcome.divzero →
      ∃ x y : Int, y = 0 ∧ AC.Calc.applyE .div x y = .error .divzero) :=
  AC.Calc.eval_total s

/-- any halt of the calc machine, run with any operator-application function, comes from an
    application that refused its operands (no other partial step exists in the machine) -/
theorem C15_calc_halt_source {ε : Type} (ap : P.YP.Bop → Int → Int → Except ε Int) (s : List Char) (e : ε)
    (h : AC.Calc.evalWith ap s = .halt e) : ∃ t a b, ap t a b = .error e :=
  AC.Calc.evalWith_halt ap s e h

/-- why `search` must reject `-p < 1` (F6): with concurrency limit 0 and at least one algorithm,
    `exec.Parallel.Execute` cannot take a single step — main blocks on `sem <- token{}` forever -/
theorem C15_exec_limit_zero_blocks {k : Nat} (hk : 1 ≤ k) :
    ¬ ∃ a t, P.ExecT.Step k 0 (P.ExecT.init k) a t :=
  AC.Props.C12.C12_limit_zero_blocks hk

/-- and with a limit `L ≥ 1` the executor is deadlock-free: `-p N` for every `N ≥ 1` returns -/
theorem C15_exec_progress {k L : Nat} (hL : 1 ≤ L) {s : P.ExecT.St} (h : P.ExecT.Reach k L s)
    (hn : s.main ≠ .returned) : ∃ a t, P.ExecT.Step k L s a t :=
  AC.Props.C12.C12_progress hL h hn

/-- guards the window extraction of the sliding-window decomposer: for `x ≥ 1` the scan started one
    above the top bit with one spare unit of fuel (the call of `Bits.slidingWindow`) emits at least one
    term.  `Bits.decompose` starts the scan with fuel `log2 x + 1`; `C15_decompose_nonempty` covers it. -/
theorem C15_sliding_nonempty (x K : Nat) (hx : 1 ≤ x) :
    Bits.sliding x K (Nat.log2 x + 2) (Nat.log2 x + 1) ≠ [] := Bits.sliding_nonempty x K hx

/-- outcome classes of an entry point -/
inductive Out | ok | err | panic | blocked
deriving Repr, DecidableEq

/-- the entry points of the property: outcome class on a source / expression text; `search` also
    takes the `-p` value -/
structure Entries where
  calcEval : List Char → Out
  parse : List Char → Out
  translate : List Char → Out
  eval : List Char → Out
  build : List Char → Out
  format : List Char → Out
  prepareData : List Char → Out
  generate : List Char → Out
  search : Int → List Char → Out

/-- FULL STATEMENT (open): for the concrete outcome-class functions `E` of the addchain models
    (calc: `AC.Calc.eval` — proved, `C15_calc_total`; parse/translate/eval: PegFull + SemX; build:
    `buildX`; format: PrinterX; prepareData/generate: allocator + listing models; search: the
    composition of `SearchX.search` with the executor LTS), no input leads to `panic` or `blocked`.
    Open: one guard lemma per site of `expect/panic_sites.txt` that is not restated above. -/
def C15_total_Statement (E : Entries) : Prop :=
  (∀ s, E.calcEval s ≠ .panic ∧ E.calcEval s ≠ .blocked) ∧
  (∀ s, E.parse s ≠ .panic ∧ E.parse s ≠ .blocked) ∧
  (∀ s, E.translate s ≠ .panic ∧ E.translate s ≠ .blocked) ∧
  (∀ s, E.eval s ≠ .panic ∧ E.eval s ≠ .blocked) ∧
  (∀ s, E.build s ≠ .panic ∧ E.build s ≠ .blocked) ∧
  (∀ s, E.format s ≠ .panic ∧ E.format s ≠ .blocked) ∧
  (∀ s, E.prepareData s ≠ .panic ∧ E.prepareData s ≠ .blocked) ∧
  (∀ s, E.generate s ≠ .panic ∧ E.generate s ≠ .blocked) ∧
  (∀ p s, E.search p s ≠ .panic ∧ E.search p s ≠ .blocked)

/-- outcome class of the calc model -/
def calcOut (s : List Char) : Out :=
  match AC.Calc.eval s with
  | .ok _ => .ok
  | _ => .err

/-- the calc clause of the full statement holds for the calc model -/
theorem C15_calc_clause (s : List Char) : calcOut s ≠ .panic ∧ calcOut s ≠ .blocked := by
  unfold calcOut
  split <;> exact ⟨by decide, by decide⟩

/-- non-vacuity: a division by zero and a trailing operator over a zero operand are diagnosed, not
    crashed on; a well-formed expression is evaluated -/
example : AC.Calc.eval "1/0".toList = AC.Calc.Outcome.divzero ∧ AC.Calc.eval "7*".toList = .err ∧
    AC.Calc.eval "2^5-1".toList = .ok 31 := by decide

end AC.Props.C15
