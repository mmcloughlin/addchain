import AC.OptProof
import AC.OptTie
/-! # C10 — chain optimisation only removes elements and keeps the chain valid

Model: `P.OptX.optimize` (alg/opt/opt.go, index based, with the conservative re-counting of
singleton lists; `pruneuses`, which filters the slice in place, is a `List.filter`). -/
namespace AC.Props.C10
open P P.OptX

/-- for every valid addition chain, in any element order: the result is a valid addition chain, a
    subsequence of the input, keeps the first element 1 and the same last element -/
theorem C10_optimize (c : Chain) (hc : IsChain c) :
    IsChain (optimize c) ∧ (optimize c).Sublist c ∧ (optimize c).head? = some 1 ∧
    (optimize c).getLast? = c.getLast? := optimize_ok c hc

/-- hence never longer than the input -/
theorem C10_not_longer (c : Chain) (hc : IsChain c) : (optimize c).length ≤ c.length :=
  (optimize_ok c hc).2.1.length_le

/-- the loop invariant behind it: every list of alternatives stays a duplicate-free subset of the
    original `Ops`, non-removed positions keep at least one alternative avoiding every removed
    position, singleton lists have positively counted operands, only interior positions are removed -/
theorem C10_invariant (c : Chain) (hc : IsChain c) :
    Inv c (((List.range (c.length - 1)).filter (0 < ·)).foldl (step c.length) (initSt c)) :=
  optimize_inv c hc

/-- in a duplicate-free chain at most one op of a position uses a given index -/
theorem C10_uses_unique (c : Chain) (hnd : c.Nodup) (l : Nat) (hl : l < c.length) (k : Nat) (o o' : Op)
    (ho : o ∈ P.ops c l) (ho' : o' ∈ P.ops c l) (hu : uses o k = true) (hu' : uses o' k = true) : o = o' :=
  ops_uses_unique c hnd l hl k o o' ho ho' hu hu'

/-- non-vacuity: a valid chain with redundant elements -/
example : IsChain [1,2,3,4,5] := (isChainB_iff _).1 (by decide)

/-! ## `opt.Optimize` as TRANSLATED from opt.go

`AC/Gen/ProgramFns.lean` is regenerated from alg/opt/opt.go on every run (harness/cmd/extract/gotr.go);
`AC/OptTie.lean` proves the translated function equal to the model (`optimize_tie`: every chain, no panic,
nil error), loop by loop. The property, stated over the translated Go function itself: -/

/-- the translated `Optimize` on a valid chain returns, without error, a valid chain that is a
    subsequence of the input, starts at 1, ends at the same value and is not longer -/
theorem C10_src_optimize (c : Chain) (hc : IsChain c) :
    ∃ o, AC.Gen.Program.optOptimize c = some (o, none) ∧ IsChain o ∧ o.Sublist c ∧ o.head? = some 1 ∧
      o.getLast? = c.getLast? ∧ o.length ≤ c.length :=
  ⟨optimize c, AC.OptTie.optimize_tie c, (C10_optimize c hc).1, (C10_optimize c hc).2.1,
    (C10_optimize c hc).2.2.1, (C10_optimize c hc).2.2.2, C10_not_longer c hc⟩

/-- on ANY sequence (valid chain or not) the translated `Optimize` neither panics nor reports an error -/
theorem C10_src_total (c : Chain) : ∃ o, AC.Gen.Program.optOptimize c = some (o, none) :=
  ⟨_, AC.OptTie.optimize_tie c⟩

end AC.Props.C10
