import AC.ParseImage
/-! # C07 — printing any syntax tree and parsing it back is the identity

Model: `P.PegF.parse` (char-level model of the whole `acc.peg` grammar with pigeon's semantics,
`AC/PegFull.lean`) and `P.PegF.printChain` (`printer.go` + `text/tabwriter`, `AC/PrinterX.lean`,
precedences from the generated `AC/Gen/AstPrec.lean`); both are validated against the real
`parse.String` / `printer.String` by the correspondence run.

`WFTree t` (domain of the round trip): `t = as ++ [⟨"", x⟩]` — at least one statement, the final
one unnamed — every name in `as` is an identifier (`[a-zA-Z_][a-zA-Z0-9_]*`), and every
expression satisfies `WF true`: identifiers are identifiers; an identifier that is *not*
directly the operand of a shift or a double is not `dbl` followed by `1`, a letter or `_`
(`SafeIdent`, F10); operand indices satisfy `0 ≤ i < 2^63` (F8); shift counts are `< 2^64`. -/
namespace AC.Props.C07
open P.PegF
open AC.Gen

/-- **round trip**: for every well-formed tree, however nested, the printed text parses back to
    the identical tree (so the printer never emits text the parser rejects) -/
theorem C07_roundtrip (t : Tree) (h : WFTree t) : parse (printChain t) = .ok t := roundtrip t h

/-- **every tree the parser returns is well-formed**, provided no operand index wrapped to a
    negative number (the single condition the parser does not establish — F8) -/
theorem C07_parse_image_wf (s : List Char) (t : Tree) (h : parse s = .ok t) (hn : NonNegTree t) :
    WFTree t := parse_image_wf h hn

/-- for every source text that parses (without a wrapped index), printing the tree yields text
    that parses to the identical tree -/
theorem C07_fmt_fixed (s : List Char) (t : Tree) (h : parse s = .ok t) (hn : NonNegTree t) :
    parse (printChain t) = .ok t := roundtrip t (parse_image_wf h hn)

/-- formatting preserves what the script parses to — hence the chain it evaluates to, including
    the order of intermediate values, which is a function of the tree -/
theorem C07_fmt_preserves_tree (s : List Char) (t : Tree) (h : parse s = .ok t) (hn : NonNegTree t) :
    parse (printChain t) = parse s := by rw [h]; exact roundtrip t (parse_image_wf h hn)

/-- `fmt` = parse, then print -/
def fmt (s : List Char) : Except Unit (List Char) :=
  match parse s with
  | .ok t => .ok (printChain t)
  | .error _ => .error ()

/-- formatting is idempotent, and its output is never rejected -/
theorem C07_fmt_idempotent (s u : List Char) (t : Tree) (h : parse s = .ok t) (hn : NonNegTree t)
    (hu : fmt s = .ok u) : fmt u = .ok u := by
  unfold fmt at hu
  rw [h] at hu
  injection hu with hu
  subst hu
  unfold fmt
  rw [roundtrip t (parse_image_wf h hn)]

/-- expression level, with the sticky error flag: the printed text of a well-formed expression
    followed by anything that cannot continue an expression parses back to the expression, the
    rest loses only leading blanks, and no action error is recorded -/
theorem C07_expr_roundtrip (n : Nat) (t : Expr) (ht : WF true t) (hn : pdepth t < n) (r : List Char) (e : Bool)
    (h1 : P.Peg.EndTok r) (h2 : P.Peg.NoShiftOp r) (h3 : NoBaseStart r) (h4 : P.Peg.NoAddOp r) :
    expr n (prBody t ++ r) e = (some (t, P.Peg.dropWs r), e) := expr_rt n t ht hn r e h1 h2 h3 h4

/-- the decidable check used by the driver is exactly `WFTree` -/
theorem C07_wfTreeB_iff (t : Tree) : wfTreeB t = true ↔ WFTree t := wfTreeB_iff t

/-- where the printer parenthesises, over the precedence table regenerated from `ast.go`:
    never at statement level or inside parentheses (so `printer.expr` terminates), never the left
    operand of `+`, the right operand of `+` iff it is an addition, the operand of a shift or a
    double iff it is an operator -/
theorem C07_printer_positions (x : Expr) :
    decide (precOf x < AstPrec.lowestPrec) = false ∧
    decide (precOf x < AstPrec.add) = false ∧
    decide (precOf x < AstPrec.add + 1) = isAdd x ∧
    decide (precOf x < AstPrec.highestPrec) = !isAtom x :=
  ⟨prec_ge_lowest x, prec_addX x, prec_addY x, prec_unary x⟩

theorem ok_of_toOption {ε α : Type} {x : Except ε α} {a : α} (h : x.toOption = some a) : x = .ok a := by
  cases x with
  | error _ => cases h
  | ok v => cases h; rfl

/-- F8: the hypothesis `NonNegTree` cannot be dropped — `[18446744073709551615]` parses to
    `Operand(-1)`, which is not well-formed and prints as `return  [-1]` -/
theorem C07_F8_hypothesis_needed :
    parse "[18446744073709551615]".toList = .ok [⟨[], .operand (-1)⟩] ∧
    ¬ WFTree [⟨[], .operand (-1)⟩] ∧
    printChain [⟨[], .operand (-1)⟩] = "return  [-1]\n".toList := by
  refine ⟨ok_of_toOption (by decide +kernel), ?_, by decide +kernel⟩
  rw [← wfTreeB_iff]
  decide +kernel

/-- F10: the stand-alone-identifier condition cannot be dropped — the tree `return dblx`
    violates only `SafeIdent`, and its printed text parses to the different tree `2*x` -/
theorem C07_F10_condition_needed :
    f10Only [⟨[], .ident "dblx".toList⟩] = true ∧
    parse (printChain [⟨[], .ident "dblx".toList⟩]) = .ok [⟨[], .double (.ident ['x'])⟩] :=
  ⟨by decide +kernel, ok_of_toOption (by decide +kernel)⟩

/-- non-vacuity: a two-statement tree with a statement named `dbl`, the identifier `dblx` under
    a shift, a right-nested addition and an operator under a double is well-formed -/
example : WFTree [⟨"dbl".toList, .shift (.ident "dblx".toList) 3⟩,
    ⟨[], .add (.ident ['a']) (.add (.double (.shift (.operand 0) 2)) (.operand 7))⟩] := by
  rw [← wfTreeB_iff]; decide +kernel

end AC.Props.C07
