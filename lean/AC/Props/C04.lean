import AC.BuildXProof
/-! # C04 — the script printed for a chain loads back to exactly that chain

Models (all executable, compared with the Go code by the correspondence run):
`P.BuildX.decompileX` (acc/decompile.go), `P.BuildX.buildX` (acc/build.go with `pass.ReadCounts`,
`pass.NameByteValues`, `pass.NameXRuns`, the builder's inlining rule, the complexity limit 5, the
clearing of the last name and the `return 1` case), `P.BuildX.danglingOK` (`pass.CheckDanglingInputs`),
`P.Sem.cAll` (`pass.Compile`), `P.evaluate` (`Program.Evaluate`).
Specification side: `P.Sem.dStmts` — the direct semantics of a script (statements in order, operands
left to right, names bound to the element their statement produced). `P.Sem.load_eq_denote` shows that translating
to IR and compiling refines it for indices that are unbounded naturals; the 64-bit loader of C03 is
brought in by `P.TextCompose.C04_text`.

`P.Sem.norm (i, j) = (min i j, max i j)` is "the operands of an addition sorted". -/
namespace AC.Props.C04
open P P.Sem P.BuildX

/-- The intermediate instruction form produced by `Decompile` expands back (`pass.Compile`, including
    the bounds checks and the output-index cross-check) to exactly the original operations, for every
    program whose operands are in range; and `Decompile` itself does not panic on such a program. -/
theorem C04_compile_decompile (p : Prog) (h : InRange p 0) :
    decompileX p = .ok (decompile p) ∧ cAll [] (decompile p) = some p :=
  ⟨decompileX_ok p h, compile_decompile p h⟩

/-- The decompiled program never reads a value that no instruction produces: `CheckDanglingInputs`
    succeeds, i.e. every input of every instruction is index 0 or the output of an earlier instruction. -/
theorem C04_decompile_no_dangling (p : Prog) (h : InRange p 0) :
    danglingOK (decompile p) = true ∧
    ∀ (n : Nat) (inst : Inst), (decompile p)[n]? = some inst → ∀ x ∈ inputs inst.op,
      x = 0 ∨ ∃ (m : Nat) (e : Inst), m < n ∧ (decompile p)[m]? = some e ∧ e.out = x := by
  have h1 := decompile_noDangling p h
  refine ⟨h1, ?_⟩
  intro n inst hn x hx
  rcases (danglingFrom_iff (decompile p) [0]).mp h1 n inst hn x hx with h | h
  · left; simpa using h
  · exact Or.inr h

/-- `Build`, with the concrete names (`_<binary>` for values of at most 8 bits, `x<n>` for `2^n-1`,
    `i<index>` otherwise), the concrete inlining rule (unnamed ∧ read once ∧ read by the next
    instruction ∧ fewer than 5 operators so far), the cleared last name and the `return 1` case:
    for every IR program that compiles to `p`, has no shift by zero and whose chain values are
    pairwise distinct, `Build` succeeds (no compile error, the assertion in `builder.add` is not
    reached) and the script denotes exactly `p` with the operands of each addition sorted.
    (A shift by zero is never produced by `Decompile`; with one, the claim is false, for the model and
    for the Go code alike: `9: S(0,9); 9: S(9,0); 10: A(9,9)` compiles to ten doublings, and `Build`
    yields `i9 = 1 << 9; i9 = i9 << 0; return i9 + i9`, two statements named `i9`, which does not load.) -/
theorem C04_build_denotes (ir : IR) (p : Prog) (hs : ∀ inst ∈ ir, ∀ x s, inst.op = .shl x s → 1 ≤ s)
    (hc : cAll [] ir = some p) (hnd : (evaluate p).Nodup) :
    ∃ s, buildX ir = .ok s ∧ dStmts [] [] s = some (p.map norm) := by
  obtain ⟨s, env, hb, h⟩ := buildX_built ir p hs hc hnd
  refine ⟨s, hb, ?_⟩
  rw [← dRun_dStmts, h.run]; rfl

/-- **Round trip at the level of scripts**: for every program with in-range operands and pairwise
    distinct chain values — including the empty program, whose chain is `[1]` — decompiling and
    building succeeds and the script denotes the original program with the operands of each addition
    sorted; the denoted program evaluates to the identical chain. -/
theorem C04_roundtrip_core (p : Prog) (h : InRange p 0) (hnd : (evaluate p).Nodup) :
    ∃ ir s, decompileX p = .ok ir ∧ buildX ir = .ok s ∧ dStmts [] [] s = some (p.map norm) ∧
      evaluate (p.map norm) = evaluate p := by
  obtain ⟨s, hb, hd⟩ := C04_build_denotes (decompile p) p (decompileFrom_shl_pos p _ _ _)
    (compile_decompile p h) hnd
  exact ⟨decompile p, s, decompileX_ok p h, hb, hd, evaluate_map_norm p⟩

/-- The same through the IR pipeline of `LoadString` after parsing (`Translate` then `pass.Compile`),
    with indices as unbounded naturals (`P.Sem.load_eq_denote`). -/
theorem C04_roundtrip_translate (p : Prog) (h : InRange p 0) (hnd : (evaluate p).Nodup) :
    ∃ ir s, decompileX p = .ok ir ∧ buildX ir = .ok s ∧
      (match tStmts [] 1 s with | none => none | some ir' => cAll [] ir') = some (p.map norm) := by
  obtain ⟨ir, s, h1, h2, h3, _⟩ := C04_roundtrip_core p h hnd
  exact ⟨ir, s, h1, h2, (load_eq_denote s).trans h3⟩

/-- Full text-level statement: with `print` the printer model of C07 and `load` the loader model
    of C03 (`parse` followed by the direct semantics), the printed script loads without error to the
    program with sorted addition operands, hence to the identical chain. It follows from
    `C04_roundtrip_core` given C07 (`parse (print s) = some s` for the scripts `buildX` produces) and
    C03 (`load = parse >>= denote`), see `C04_text_of`; for the concrete printer and loader models it is
    `P.TextCompose.C04_text`, under the size bound those models need. -/
def C04_text_Statement (print : Script → List Char) (load : List Char → Option Prog) : Prop :=
  ∀ p : Prog, InRange p 0 → (evaluate p).Nodup →
    ∃ ir s, decompileX p = .ok ir ∧ buildX ir = .ok s ∧ load (print s) = some (p.map norm)

/-- the composition: any printer/parser pair that round-trips on built scripts gives the text-level
    statement for `load := parse >>= denote` -/
theorem C04_text_of (print : Script → List Char) (parse : List Char → Option Script)
    (h07 : ∀ ir s, buildX ir = .ok s → parse (print s) = some s) :
    C04_text_Statement print (fun t => (parse t).bind (dStmts [] [])) := by
  intro p h hnd
  obtain ⟨ir, s, h1, h2, h3, _⟩ := C04_roundtrip_core p h hnd
  exact ⟨ir, s, h1, h2, by simp [h07 ir s h2, h3]⟩

/-- The constants the model hard-wires (8 bits, `_%b`, `x%d`, `i%d`) are the ones in the Go source:
    `AC.Gen.*` is regenerated from acc/pass/naming.go and acc/build.go on every check. -/
theorem C04_naming_constants : AC.Gen.byteBits = 8 ∧ AC.Gen.byteFmt = "_%b" ∧ AC.Gen.xRunFmt = "x%d" ∧
    AC.Gen.indexFmt = "i%d" := naming_constants

/-- non-vacuity: the empty program (target 1) gives `return 1` -/
example : buildX [] = .ok [⟨"", .operand 0⟩] ∧ dStmts [] [] [⟨"", .operand 0⟩] = some [] := ⟨rfl, rfl⟩
/-- a program with a doubling run, a swapped addition and a re-used value is in range, and these
    are the names `buildX` gives its statements -/
example : InRange [(0,0),(1,0),(2,2),(3,3),(4,4),(5,2)] 0 := by simp [InRange]
example : (match buildX (decompile [(0,0),(1,0),(2,2),(3,3),(4,4),(5,2)]) with
    | .ok s => s.map (·.name) | .error _ => []) = ["_10", "_11", "_11000", ""] := by decide

end AC.Props.C04
