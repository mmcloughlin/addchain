import AC.ProgramX
import AC.ProgramTie
import AC.ChainTie
/-! # C18 — program builders reject bad operands; program analyses match their definitions

Model: `P.PX` (AC/ProgramX.lean): `padd/pdouble/pshift` (`Program.Add/Double/Shift` with Go `int`
operands as `Int`), `step/runCalls/build` (call sequences), `count`, `evaluateX`, `readCounts`,
`dependencies` (`none` = the Go code would panic on an index out of range), `productX`, `plusX`.
`InRange p`: op number `k` only reads positions `≤ k`. `Reach p j k`: reflexive-transitive closure of
"`j` is an operand of position `k`". `uses i o`: `o.I = i ∨ o.J = i` (a doubling counts once because
the operations, not the operand slots, are counted).

"Leaves the program unchanged" on error: the builders are modelled in state-passing form for
`Shift` (which could in principle fail half-way), so "unchanged" is a theorem there; `Add`/`Double`
return before the append. "Without modifying their arguments" (Product/Plus) is not expressible in
a functional model; it is observed by the harness on every case. -/
namespace AC.Props.C18
open P P.Prim P.PX

/-- the operand condition as the property states it, and as `boundscheck` tests it -/
theorem outOfRange_iff (i n : Int) : (i < 0 ∨ i > n) ↔ ¬ (0 ≤ i ∧ i ≤ n) := by omega

/-- `Add(i,j)` fails exactly when an operand is negative or larger than the program length
    (the chain has `len+1` elements, so `len` itself is a valid operand) -/
theorem C18_add_err (p : List Op) (i j : Int) :
    (∃ e, padd p i j = .error e) ↔ (i < 0 ∨ i > (p.length : Int) ∨ j < 0 ∨ j > (p.length : Int)) := by
  rw [← or_assoc, outOfRange_iff, outOfRange_iff, ← Decidable.not_and_iff_not_or_not]
  refine ⟨fun ⟨e, he⟩ h => ?_, padd_err p i j⟩
  rw [padd_ok p i j h.1 h.2] at he; cases he

/-- an accepted `Add(i,j)` appends exactly the op `(i,j)` and returns the new length, which is the
    index of the new last chain element -/
theorem C18_add_ok (p : List Op) (i j : Int) (hi0 : 0 ≤ i) (hi : i ≤ (p.length : Int))
    (hj0 : 0 ≤ j) (hj : j ≤ (p.length : Int)) :
    padd p i j = .ok (p ++ [(i.toNat, j.toNat)], p.length + 1) :=
  padd_ok p i j ⟨hi0, hi⟩ ⟨hj0, hj⟩

/-- `Double(i)`: error iff out of range, otherwise appends `(i,i)` and returns the new length -/
theorem C18_double (p : List Op) (i : Int) :
    ((∃ e, pdouble p i = .error e) ↔ (i < 0 ∨ i > (p.length : Int))) ∧
    (0 ≤ i → i ≤ (p.length : Int) → pdouble p i = .ok (p ++ [(i.toNat, i.toNat)], p.length + 1)) := by
  refine ⟨?_, fun h0 h1 => padd_ok p i i ⟨h0, h1⟩ ⟨h0, h1⟩⟩
  unfold pdouble
  rw [C18_add_err, ← or_assoc, or_self]

/-- the ops appended by a shift: `(i,i)` then doublings of the respective newest element -/
theorem C18_shiftOps (n i s : Nat) :
    shiftOps n i (s + 1) = (i, i) :: (List.range s).map (fun t => (n + 1 + t, n + 1 + t)) := by
  have key : ∀ (s m : Nat), shiftOps m m s = (List.range' m s).map (fun t => (t, t)) := by
    intro s
    induction s with
    | zero => intro m; rfl
    | succ s ih => intro m; rw [shiftOps, ih, List.range'_succ, List.map_cons]
  rw [shiftOps, key, List.range'_eq_map_range, List.map_map]
  rfl

/-- an accepted `Shift(i,s)` with `s ≥ 1` appends exactly `s` doublings (`C18_shiftOps`) and
    returns `len + s`, the index of the new last element -/
theorem C18_shift_ok (p : List Op) (i : Int) (s : Nat) (hs : 1 ≤ s) (hi0 : 0 ≤ i)
    (hi : i ≤ (p.length : Int)) :
    pshift p i s = (p ++ shiftOps p.length i.toNat s, .ok ((p.length + s : Nat) : Int)) ∧
    (shiftOps p.length i.toNat s).length = s :=
  ⟨pshift_ok s p i hs hi0 hi, shiftOps_length s _ _⟩

/-- `Shift(i,s)` with `s ≥ 1` fails exactly when `i` is out of range, and then the program is
    unchanged (only the first doubling can fail) -/
theorem C18_shift_err (p : List Op) (i : Int) (s : Nat) (hs : 1 ≤ s) :
    ((∃ e, (pshift p i s).2 = .error e) ↔ (i < 0 ∨ i > (p.length : Int))) ∧
    (∀ e, (pshift p i s).2 = .error e → (pshift p i s).1 = p) := by
  rw [outOfRange_iff]
  by_cases h : 0 ≤ i ∧ i ≤ (p.length : Int)
  · rw [pshift_ok s p i hs h.1 h.2]
    exact ⟨⟨nofun, fun h' => absurd h h'⟩, nofun⟩
  · obtain ⟨s, rfl⟩ := Nat.exists_eq_add_one_of_ne_zero (Nat.ne_of_gt hs)
    obtain ⟨e, he⟩ := pshift_err s p i h
    rw [he]
    exact ⟨⟨fun _ => h, fun _ => ⟨e, rfl⟩⟩, fun _ _ => rfl⟩

/-- `Shift(i,0)` returns `i` unchecked and appends nothing (what the loop of `Shift` does when it runs
    zero times; outside the property, which speaks of shifts by at least one) -/
theorem C18_shift_zero (p : List Op) (i : Int) : pshift p i 0 = (p, .ok i) := rfl

/-- whatever the call, a failing call leaves the program unchanged, and every call only appends -/
theorem C18_step_unchanged_or_appends (p : List Op) (c : Call) :
    (∀ e, (step p c).2 = .error e → (step p c).1 = p) ∧ ∃ q, (step p c).1 = p ++ q := by
  have hadd : ∀ i j : Int, (∀ e, (step p (.add i j)).2 = .error e → (step p (.add i j)).1 = p) ∧
      ∃ q, (step p (.add i j)).1 = p ++ q := by
    intro i j
    simp only [step]
    by_cases hr : (0 ≤ i ∧ i ≤ (p.length : Int)) ∧ (0 ≤ j ∧ j ≤ (p.length : Int))
    · rw [padd_ok p i j hr.1 hr.2]
      exact ⟨nofun, _, rfl⟩
    · obtain ⟨e, he⟩ := padd_err p i j hr
      rw [he]; exact ⟨fun _ _ => rfl, [], (List.append_nil p).symm⟩
  cases c with
  | add i j => exact hadd i j
  | double i => exact hadd i i
  | shift i s =>
    simp only [step]
    cases s with
    | zero => exact ⟨fun _ _ => rfl, ⟨[], by simp [pshift]⟩⟩
    | succ s =>
      refine ⟨(C18_shift_err p i (s + 1) (Nat.succ_pos s)).2, ?_⟩
      by_cases hr : (0 ≤ i ∧ i ≤ (p.length : Int))
      · rw [pshift_ok (s + 1) p i (Nat.succ_pos s) hr.1 hr.2]; exact ⟨_, rfl⟩
      · obtain ⟨e, he⟩ := pshift_err s p i hr
        rw [he]; exact ⟨[], by simp⟩

/-- every program built by any call sequence from the empty program (or from any in-range
    program) is in range: each op reads only elements that existed when it was appended -/
theorem C18_built_inRange (cs : List Call) (p : List Op) (hp : InRange p) : InRange (build p cs) :=
  build_inRange cs p hp

theorem C18_built_inRange_nil (cs : List Call) : InRange (build [] cs) :=
  build_inRange cs [] inRange_nil

/-- an in-range program evaluates without failure to a chain one longer than the program that
    starts at 1 and in which element `k+1` is the sum of the two operands of op `k` -/
theorem C18_evaluate (p : List Op) (hp : InRange p) :
    ∃ c, evaluateX p = some c ∧ c.length = p.length + 1 ∧ at' c 0 = 1 ∧
      ∀ k (h : k < p.length), at' c (k + 1) = at' c p[k].1 + at' c p[k].2 := by
  refine ⟨evaluate p, evaluateX_eq p hp, evaluate_length p, ?_, ?_⟩
  · induction p using snocInd with
    | nil => rfl
    | append_singleton p o ih =>
      rw [evaluate_append, at'_append_left _ _ _ (evaluate_length p ▸ Nat.succ_pos _)]
      exact ih (inRange_init p o hp).1
  · induction p using snocInd with
    | nil => exact nofun
    | append_singleton p o ih =>
      obtain ⟨hp', h1, h2⟩ := inRange_init p o hp
      intro k hk
      have hl := evaluate_length p
      have hlt : ∀ m, m ≤ p.length → m < (evaluate p).length := fun m hm => hl ▸ Nat.lt_succ_of_le hm
      rw [evaluate_append]
      rw [List.length_append] at hk
      rcases Nat.lt_or_eq_of_le (Nat.le_of_lt_succ hk) with hkl | rfl
      · have hb := hp' k hkl
        have hk' := Nat.le_of_lt hkl
        rw [List.getElem_append_left hkl, at'_append_left _ _ _ (hl ▸ Nat.succ_lt_succ hkl),
          at'_append_left _ _ _ (hlt _ (Nat.le_trans hb.1 hk')), at'_append_left _ _ _ (hlt _ (Nat.le_trans hb.2 hk'))]
        exact ih hp' k hkl
      · rw [List.getElem_concat_length, at'_append_left _ _ o.1 (hlt _ h1), at'_append_left _ _ o.2 (hlt _ h2),
          ← hl, at'_append_last]
        rfl

/-- every builder-built program evaluates without failure to a chain one longer than itself -/
theorem C18_evaluate_built (cs : List Call) :
    ∃ c, evaluateX (build [] cs) = some c ∧ c.length = (build [] cs).length + 1 := by
  obtain ⟨c, h1, h2, _⟩ := C18_evaluate _ (C18_built_inRange_nil cs)
  exact ⟨c, h1, h2⟩

/-- doubles + adds = program length; doubles are exactly the ops with equal operands -/
theorem C18_count_sum (p : List Op) :
    (count p).1 + (count p).2 = p.length ∧
    count p = (p.countP (fun o => o.1 == o.2), p.countP (fun o => !(o.1 == o.2))) :=
  ⟨count_sum p, count_eq p⟩

/-- read counts: defined (no panic) whenever all operands are at most the program length, of
    length `len+1`, and entry `i` is the number of operations that use element `i`
    (a doubling `(i,i)` is one operation, so it counts once) -/
theorem C18_readCounts_spec (p : List Op) (hp : ∀ o ∈ p, o.1 ≤ p.length ∧ o.2 ≤ p.length) :
    ∃ r, readCounts p = some r ∧ r.length = p.length + 1 ∧
      ∀ i, r.getD i 0 = p.countP (uses i) :=
  readCounts_ok p hp

/-- in particular for every in-range (hence every builder-built) program -/
theorem C18_readCounts_inRange (p : List Op) (hp : InRange p) :
    ∃ r, readCounts p = some r ∧ r.length = p.length + 1 ∧
      ∀ i, r.getD i 0 = p.countP (uses i) :=
  readCounts_ok p (inRange_mem_le p hp)

/-- dependency bitsets of an in-range program: defined, one per chain position, and bit `j` of
    bitset `k` is set exactly when `j` reaches `k` in the reflexive-transitive closure of the
    operand relation -/
theorem C18_deps_spec (p : List Op) (hp : InRange p) :
    ∃ ds, dependencies p = some ds ∧ ds.length = p.length + 1 ∧
      ∀ k, k ≤ p.length → ∀ j, ((ds.getD k 0).testBit j = true ↔ Reach p j k) := by
  have hd := deps_exact p ((inRange_iff_inRangeP p).1 hp)
  refine ⟨depsL p, dependencies_eq p hp, depsL_length p, fun k hk j => ?_⟩
  exact ⟨reach_of_bit p _ hd k k (Nat.le_refl _) hk j, fun h => bit_of_reach p _ hd j k h hk⟩

/-- product of two valid ascending chains: no panic, a valid ascending chain that extends `a`
    and ends at the product of the end values -/
theorem C18_product_ok (a b : Chain) (ha : IsChain a) (haa : a.Pairwise (· < ·))
    (hb : IsChain b) (hba : b.Pairwise (· < ·)) :
    ∃ c, productX a b = some c ∧ IsChain c ∧ c.Pairwise (· < ·) ∧
      c.getLastD 0 = a.getLastD 0 * b.getLastD 0 ∧ a <+: c := by
  have ga := goodC_of_isChain a ha haa
  have gb := goodC_of_isChain b hb hba
  obtain ⟨g, hl, _⟩ := product_good a b ga gb
  refine ⟨product a b, ?_, g.isChain, g.asc, hl, ⟨_, rfl⟩⟩
  unfold productX
  have h1 : a.isEmpty = false := List.isEmpty_eq_false_iff.2 ha.1
  have h2 : b.isEmpty = false := List.isEmpty_eq_false_iff.2 hb.1
  simp [h1, h2]

/-- plus of a valid ascending chain and one of its members: no panic, a valid ascending chain
    `a ++ [end + x]` -/
theorem C18_plus_ok (a : Chain) (x : Int) (ha : IsChain a) (haa : a.Pairwise (· < ·)) (hx : x ∈ a) :
    ∃ c, plusX a x = some c ∧ IsChain c ∧ c.Pairwise (· < ·) ∧
      c.getLastD 0 = a.getLastD 0 + x ∧ c = a ++ [a.getLastD 0 + x] := by
  have ga := goodC_of_isChain a ha haa
  obtain ⟨g, hl, _⟩ := plus_good a x ga hx
  refine ⟨plus a x, ?_, g.isChain, g.asc, hl, ?_⟩
  · unfold plusX
    have h1 : a.isEmpty = false := List.isEmpty_eq_false_iff.2 ha.1
    simp [h1]
  · unfold plus
    rw [getLastD_default a ga.ne_nil 1 0]

/-- non-vacuity: an accepted add, a rejected add (program unchanged), a shift by two, a rejected
    double -/
example : runCalls [] [.add 0 0, .add 2 0, .shift 1 2, .double (-1)] =
    ([(0,0),(1,1),(2,2)],
     [(.ok 1, [(0,0)]), (.error (.outOfBounds 2), [(0,0)]), (.ok 3, [(0,0),(1,1),(2,2)]),
      (.error (.negative (-1)), [(0,0),(1,1),(2,2)])]) := by rfl

/-! ## The same statements over the functions TRANSLATED from program.go

`AC/Gen/ProgramFns.lean` is regenerated from the Go source on every run (translator:
harness/cmd/extract/gotr.go); `AC/ProgramTie.lean` proves each translated function equal to the model
function used above. The theorems below restate the property over the translated functions
themselves (`toGs` embeds a program with natural operands; `none` would be a Go panic). -/
section Src
open AC.Gen.Program AC.GoPrim AC.ProgramTie

/-- one builder call through the translated builders: receiver afterwards, returned index, error -/
def srcStep (g : List GOp) : Call → Option (List GOp × Int × Option GoErr)
  | .add i j => programAdd g i j
  | .double i => programDouble g i
  | .shift i s => programShift g i s

/-- a call sequence through the translated builders (errors are returned to the caller and the
    sequence goes on, as in the harness); `none` = some call panicked -/
def srcBuild (g : List GOp) : List Call → Option (List GOp)
  | [] => some g
  | c :: cs => (srcStep g c).bind fun r => srcBuild r.1 cs

/-- the translated `Add` never panics; it returns an error exactly for an operand that is negative
    or larger than the program length and then leaves the receiver unchanged; otherwise it appends
    the op and returns the new length -/
theorem C18_src_add (p : List Op) (i j : Int) :
    ∃ r, programAdd (toGs p) i j = some r ∧
      (r.2.2.isSome ↔ (i < 0 ∨ i > (p.length : Int) ∨ j < 0 ∨ j > (p.length : Int))) ∧
      (r.2.2.isSome → r.1 = toGs p) ∧
      (r.2.2 = none → r.1 = toGs p ++ [⟨i, j⟩] ∧ r.2.1 = (p.length : Int) + 1) := by
  refine ⟨_, add_tie p i j, ?_⟩
  rw [← C18_add_err]
  by_cases h : (0 ≤ i ∧ i ≤ (p.length : Int)) ∧ (0 ≤ j ∧ j ≤ (p.length : Int))
  · rw [padd_ok p i j h.1 h.2]
    refine ⟨⟨nofun, nofun⟩, nofun, fun _ => ⟨?_, rfl⟩⟩
    rw [addOut, toGs_snoc, toG, Int.toNat_of_nonneg h.1.1, Int.toNat_of_nonneg h.2.1]
  · obtain ⟨e, he⟩ := padd_err p i j h
    rw [he]
    exact ⟨⟨fun _ => ⟨e, rfl⟩, fun _ => rfl⟩, fun _ => rfl, nofun⟩

/-- the translated `Shift` by at least one never panics, fails exactly for an out-of-range operand
    leaving the receiver unchanged, and otherwise appends `s` operations and returns `len + s` -/
theorem C18_src_shift (p : List Op) (i : Int) (s : Nat) (hs : 1 ≤ s) :
    ∃ r, programShift (toGs p) i s = some r ∧
      (r.2.2.isSome ↔ (i < 0 ∨ i > (p.length : Int))) ∧
      (r.2.2.isSome → r.1 = toGs p) ∧
      (r.2.2 = none → r.1 = toGs (p ++ shiftOps p.length i.toNat s) ∧ r.1.length = p.length + s ∧
        r.2.1 = ((p.length + s : Nat) : Int)) := by
  refine ⟨_, shift_tie p i s, ?_⟩
  rw [← (C18_shift_err p i s hs).1]
  by_cases h : 0 ≤ i ∧ i ≤ (p.length : Int)
  · rw [pshift_ok s p i hs h.1 h.2]
    refine ⟨⟨nofun, nofun⟩, nofun, fun _ => ⟨rfl, ?_, rfl⟩⟩
    rw [shiftOut, toGs_length, List.length_append, shiftOps_length]
  · obtain ⟨s, rfl⟩ := Nat.exists_eq_add_one_of_ne_zero (Nat.ne_of_gt hs)
    obtain ⟨e, he⟩ := pshift_err s p i h
    rw [he]
    exact ⟨⟨fun _ => ⟨e, rfl⟩, fun _ => rfl⟩, fun _ => rfl, nofun⟩

theorem srcStep_tie (p : List Op) (c : Call) :
    ∃ r, srcStep (toGs p) c = some r ∧ r.1 = toGs (step p c).1 := by
  cases c with
  | add i j =>
    refine ⟨_, add_tie p i j, ?_⟩
    simp only [step]
    cases padd p i j with
    | ok r => rfl
    | error e => rfl
  | double i =>
    refine ⟨_, double_tie p i, ?_⟩
    simp only [step]
    cases pdouble p i with
    | ok r => rfl
    | error e => rfl
  | shift i s =>
    refine ⟨_, shift_tie p i s, ?_⟩
    simp only [step, shiftOut]
    cases (pshift p i s).2 <;> rfl

theorem build_cons (p : List Op) (c : Call) (cs : List Call) : build p (c :: cs) = build (step p c).1 cs := rfl

/-- any call sequence through the translated builders never panics and leaves the program the
    model's `build` leaves -/
theorem C18_src_build : ∀ (cs : List Call) (p : List Op),
    srcBuild (toGs p) cs = some (toGs (build p cs)) := by
  intro cs
  induction cs with
  | nil => intro p; rfl
  | cons c cs ih =>
    intro p
    obtain ⟨r, hr, hr1⟩ := srcStep_tie p c
    rw [srcBuild, hr, Option.bind_some, hr1, ih, build_cons]

/-- every program built through the translated builders evaluates (translated `Evaluate`) without
    a panic to a chain one longer than the program, and the translated `Count` returns a number of
    doubles and of adds whose sum is the program length -/
theorem C18_src_evaluate_built (cs : List Call) :
    ∃ g c d a, srcBuild [] cs = some g ∧ programEvaluate g = some c ∧
      c.length = g.length + 1 ∧ programCount g = some (d, a) ∧ d + a = (g.length : Int) := by
  obtain ⟨c, h1, h2⟩ := C18_evaluate_built cs
  refine ⟨_, c, _, _, C18_src_build cs [], ?_, ?_, count_tie _, ?_⟩
  · rw [evaluate_tie]; exact h1
  · simpa using h2
  · rw [toGs_length, ← (C18_count_sum (build [] cs)).1]
    exact (Int.natCast_add _ _).symm

/-- translated `ReadCounts` of an in-range program: no panic, entry `i` is the number of operations
    that use element `i` -/
theorem C18_src_readCounts (p : List Op) (hp : InRange p) :
    ∃ r : List Nat, programReadCounts (toGs p) = some (ints r) ∧ r.length = p.length + 1 ∧
      ∀ i, r.getD i 0 = p.countP (uses i) := by
  obtain ⟨r, h1, h2, h3⟩ := C18_readCounts_inRange p hp
  exact ⟨r, by rw [readCounts_tie, h1]; rfl, h2, h3⟩

/-- translated `Dependencies` of an in-range program: no panic, bit `j` of bitset `k` is set exactly
    when `j` reaches `k` in the reflexive-transitive closure of the operand relation -/
theorem C18_src_deps (p : List Op) (hp : InRange p) :
    ∃ ds : List Nat, programDependencies (toGs p) = some (ints ds) ∧ ds.length = p.length + 1 ∧
      ∀ k, k ≤ p.length → ∀ j, ((ds.getD k 0).testBit j = true ↔ Reach p j k) := by
  obtain ⟨ds, h1, h2, h3⟩ := C18_deps_spec p hp
  exact ⟨ds, by rw [dependencies_tie, h1]; rfl, h2, h3⟩

/-- translated `Product` on valid ascending chains: no panic, a valid ascending chain extending `a`
    that ends at the product of the end values -/
theorem C18_src_product (a b : Chain) (ha : IsChain a) (haa : a.Pairwise (· < ·))
    (hb : IsChain b) (hba : b.Pairwise (· < ·)) :
    ∃ c, fnProduct a b = some c ∧ IsChain c ∧ c.Pairwise (· < ·) ∧
      c.getLastD 0 = a.getLastD 0 * b.getLastD 0 ∧ a <+: c := by
  rw [AC.ChainTie.product_tie]; exact C18_product_ok a b ha haa hb hba

/-- translated `Plus` on a valid ascending chain and one of its members -/
theorem C18_src_plus (a : Chain) (x : Int) (ha : IsChain a) (haa : a.Pairwise (· < ·)) (hx : x ∈ a) :
    ∃ c, fnPlus a x = some c ∧ IsChain c ∧ c.Pairwise (· < ·) ∧
      c.getLastD 0 = a.getLastD 0 + x ∧ c = a ++ [a.getLastD 0 + x] := by
  rw [AC.ChainTie.plus_tie]; exact C18_plus_ok a x ha haa hx

/-- non-vacuity: the translated builders on a concrete sequence (accepted add, rejected add,
    shift by two, rejected double) and the translated analyses of the result -/
example : srcBuild [] [.add 0 0, .add 2 0, .shift 1 2, .double (-1)] =
    some [⟨0, 0⟩, ⟨1, 1⟩, ⟨2, 2⟩] := by decide
example : programAdd [⟨0, 0⟩] 2 0 = some ([⟨0, 0⟩], 0, some ("index %d out of bounds", [2])) := rfl
example : programEvaluate [⟨0, 0⟩, ⟨1, 0⟩, ⟨2, 2⟩] = some [1, 2, 3, 6] := by decide
example : programReadCounts [⟨0, 0⟩, ⟨1, 0⟩, ⟨2, 2⟩] = some [2, 1, 1, 0] := by decide
example : programDependencies [⟨0, 0⟩, ⟨1, 0⟩, ⟨2, 2⟩] = some [1, 3, 7, 15] := by decide
example : programEvaluate [⟨1, 0⟩] = none := by decide
end Src

end AC.Props.C18
