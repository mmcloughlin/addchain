import AC.HelpersX
import AC.BigintTie
import AC.BigintsTie
/-! # C19 — multi-precision helpers agree with their mathematical definitions

Models (the functions the correspondence run compares with internal/bigint, internal/bigints,
internal/bigvector): `P.HX.maskI`, `P.HX.extractI`, `P.HX.isPow2`, `P.HX.pow2UpTo`, `P.HX.bitsSet`,
`P.HX.minMax`, `P.HX.uint64s`, `P.HX.bytesLE`, `P.HX.hex`, `P.HX.binary`, `P.HX.sort`, `P.HX.index`,
`P.HX.contains`, `P.Helpers.containsSorted`, `P.uniq`, `P.insertSortedUnique`, `P.mergeUnique`,
`P.HX.vadd`, `P.HX.vlsh`. "Arguments unmodified" is not expressible on pure functions; it is observed by
the harness on every case (deep copy before, compare after). -/
namespace AC.Props.C19
open P P.Bits P.Helpers P.HX

/-- Mask(l,h) for `l ≤ h` is a natural number whose set bits are exactly the positions `l ≤ i < h` -/
theorem C19_mask_testBit (l h : Nat) (hlh : l ≤ h) :
    ∃ m : Nat, maskI l h = (m : Int) ∧ ∀ i, m.testBit i = true ↔ l ≤ i ∧ i < h := by
  refine ⟨mask l h, maskI_eq l h hlh, fun i => ?_⟩
  rw [mask_testBit l h i hlh, Bool.and_eq_true, decide_eq_true_eq, decide_eq_true_eq]

/-- Ones(n) = Mask(0,n) = 2^n − 1 -/
theorem C19_ones (n : Nat) : maskI 0 n = (((2 ^ n - 1 : Nat)) : Int) := by
  rw [maskI_eq 0 n (Nat.zero_le _), ← ones_eq n, ones]

/-- Extract(x,l,h) for `x ≥ 0`, `l ≤ h` is `⌊x / 2^l⌋ mod 2^(h−l)` -/
theorem C19_extract_eq (x l h : Nat) (hlh : l ≤ h) :
    extractI (x : Int) l h = ((x / 2 ^ l % 2 ^ (h - l) : Nat) : Int) := by
  rw [extractI_eq x l h hlh, extract_eq x l h hlh]

/-- IsPow2 is true exactly on the powers of two (any integer argument, negative ones included) -/
theorem C19_isPow2_iff (x : Int) : isPow2 x = true ↔ ∃ k : Nat, x = (2 : Int) ^ k := isPow2_iff x

/-- Pow2UpTo(x) for `x ≥ 1` is exactly `[2^0, …, 2^k]` where `2^k ≤ x < 2^(k+1)` -/
theorem C19_pow2UpTo_spec (x : Nat) (hx : 1 ≤ x) :
    ∃ k, pow2UpTo (x : Int) = (List.range (k + 1)).map (2 ^ ·) ∧ 2 ^ k ≤ x ∧ x < 2 ^ (k + 1) :=
  pow2UpTo_spec x hx

/-- Pow2UpTo of a non-positive argument is empty (no power of two is ≤ x) -/
theorem C19_pow2UpTo_nonpos (x : Int) (h : x ≤ 0) : pow2UpTo x = [] := pow2UpTo_nonpos x h

/-- Pow2UpTo is strictly ascending, and contains exactly the powers of two that are ≤ x -/
theorem C19_pow2UpTo_mem (x : Nat) :
    (pow2UpTo (x : Int)).Pairwise (· < ·) ∧ ∀ p, p ∈ pow2UpTo (x : Int) ↔ ∃ j, p = 2 ^ j ∧ p ≤ x := by
  cases x with
  | zero =>
    rw [pow2UpTo_nonpos ((0 : Nat) : Int) (Int.le_refl 0)]
    exact ⟨List.Pairwise.nil, fun p =>
      ⟨nofun, fun ⟨j, hp, hle⟩ => absurd (hp ▸ hle) (Nat.not_le.2 (Nat.two_pow_pos j))⟩⟩
  | succ x =>
    obtain ⟨k, hl, h1, h2⟩ := pow2UpTo_spec (x + 1) (Nat.succ_pos x)
    have h2lt : 1 < 2 := by decide
    rw [hl, List.pairwise_map]
    refine ⟨List.pairwise_lt_range.imp (Nat.pow_lt_pow_right h2lt), fun p => ?_⟩
    simp only [List.mem_map, List.mem_range]
    constructor
    · rintro ⟨j, hj, rfl⟩
      exact ⟨j, rfl, Nat.le_trans (Nat.pow_le_pow_right (by decide) (Nat.le_of_lt_succ hj)) h1⟩
    · rintro ⟨j, rfl, hle⟩
      exact ⟨j, (Nat.pow_lt_pow_iff_right h2lt).1 (Nat.lt_of_le_of_lt hle h2), rfl⟩

/-- BitsSet(x) lists, in strictly ascending order, exactly the positions of the set bits of x -/
theorem C19_bitsSet_spec (x : Nat) :
    (bitsSet x).Pairwise (· < ·) ∧ ∀ i, i ∈ bitsSet x ↔ x.testBit i = true :=
  ⟨pairwise_bitsSet x, mem_bitsSet x⟩

/-- MinMax returns (min, max) -/
theorem C19_minMax (x y : Int) : (minMax x y).1 = min x y ∧ (minMax x y).2 = max x y := minMax_spec x y

/-- Uint64s(x), x ≥ 0: little-endian limbs below 2^64 that re-sum to x, top limb non-zero -/
theorem C19_uint64s (x : Nat) :
    ∃ ws, uint64s (x : Int) = some ws ∧ valueLE (2 ^ 64) ws = x ∧ (∀ w ∈ ws, w < 2 ^ 64) ∧
      (∀ l, ws.getLast? = some l → l ≠ 0) :=
  ⟨_, if_neg (Int.not_lt.2 (Int.natCast_nonneg x)), digitsLE_spec (2 ^ 64) (by decide) x⟩

/-- BytesLittleEndian(x): little-endian bytes that re-sum to |x|, top byte non-zero -/
theorem C19_bytesLE (x : Int) :
    valueLE 256 (bytesLE x) = x.natAbs ∧ (∀ w ∈ bytesLE x, w < 256) ∧
      (∀ l, (bytesLE x).getLast? = some l → l ≠ 0) :=
  digitsLE_spec 256 (by decide) x.natAbs

/-- Hex on a well-formed string (after deleting underscores: a non-empty sequence of hex digits, either case):
    succeeds with the positional value of the digits -/
theorem C19_hex_spec (s : List Char) (ds : List Nat) (hne : ds ≠ [])
    (h : (s.filter (· != '_')).map digitVal = ds.map some) (hb : ∀ d ∈ ds, d < 16) :
    hex s = some ((valBE 16 ds : Nat) : Int) := setString_digits 16 _ ds hne h hb

/-- Binary on a well-formed string: succeeds with the positional value of the digits -/
theorem C19_binary_spec (s : List Char) (ds : List Nat) (hne : ds ≠ [])
    (h : (s.filter (· != '_')).map digitVal = ds.map some) (hb : ∀ d ∈ ds, d < 2) :
    binary s = some ((valBE 2 ds : Nat) : Int) := setString_digits 2 _ ds hne h hb

/-- the positional value is the Horner evaluation -/
theorem C19_valBE_horner (b : Nat) (ds : List Nat) : valBE b ds = ds.foldl (fun a d => a * b + d) 0 := by
  have key : ∀ (ds : List Nat) (acc : Nat), ds.foldl (fun a d => a * b + d) acc = acc * b ^ ds.length + valBE b ds := by
    intro ds
    induction ds with
    | nil => intro acc; simp [valBE]
    | cons d r ih =>
      intro acc
      simp only [List.foldl_cons, ih, valBE, List.length_cons, Nat.pow_succ]
      rw [Nat.add_mul, Nat.mul_assoc, Nat.mul_comm b, Nat.add_assoc]
  rw [key]; simp

/-- signs: `+digits` parses to the value, `-digits` to its negation (base 16 or 2, any explicit base) -/
theorem C19_parse_signed (b : Nat) (s : List Char) (ds : List Nat) (hne : ds ≠ [])
    (h : s.map digitVal = ds.map some) (hb : ∀ d ∈ ds, d < b) :
    setString b ('+' :: s) = some ((valBE b ds : Nat) : Int) ∧
    setString b ('-' :: s) = some (-((valBE b ds : Nat) : Int)) :=
  ⟨setString_plus b s ds hne h hb, setString_minus b s ds hne h hb⟩

/-- parsing succeeds only on an optional sign followed by at least one digit, every digit below the base -/
theorem C19_parse_some (b : Nat) (s : List Char) (v : Int) (h : setString b s = some v) :
    ∃ (body : List Char) (ds : List Nat), (s = body ∨ s = '+' :: body ∨ s = '-' :: body) ∧ ds ≠ [] ∧
      body.map digitVal = ds.map some ∧ (∀ d ∈ ds, d < b) := setString_some b s v h

/-- Sort returns the sorted permutation -/
theorem C19_sort (xs : List Int) : (sort xs).Perm xs ∧ (sort xs).Pairwise (· ≤ ·) := sort_spec xs

/-- Contains ↔ membership -/
theorem C19_contains_iff (n : Int) (xs : List Int) : HX.contains n xs = true ↔ n ∈ xs := contains_iff n xs

/-- Index is −1 when absent, otherwise the position of the first occurrence -/
theorem C19_index_spec (n : Int) (xs : List Int) :
    (n ∉ xs → index n xs = -1) ∧
    (n ∈ xs → ∃ k, k < xs.length ∧ index n xs = (k : Int) ∧ xs[k]? = some n ∧ ∀ j, j < k → xs[j]? ≠ some n) := by
  have h := indexFrom_spec n xs 0
  simp only [Nat.zero_add] at h
  exact h

/-- ContainsSorted (binary search) ↔ membership, on sorted input -/
theorem C19_containsSorted_iff (n : Int) (xs : List Int) (hs : xs.Pairwise (· ≤ ·)) :
    containsSorted n xs = true ↔ n ∈ xs := containsSorted_iff n xs hs

/-- Unique on sorted input: strictly ascending, same members -/
theorem C19_unique_sorted (xs : List Int) (hs : xs.Pairwise (· ≤ ·)) :
    (uniq xs).Pairwise (· < ·) ∧ ∀ a, a ∈ uniq xs ↔ a ∈ xs := ⟨pairwise_uniq xs hs, mem_uniq xs⟩

/-- Unique on any input removes exactly the consecutive duplicates: no two neighbours of the output are equal,
    and the input is the output with each element repeated one or more times -/
theorem C19_unique_general (xs : List Int) :
    NoAdj (uniq xs) ∧ ∃ cs : List Nat, cs.length = (uniq xs).length ∧ (∀ c ∈ cs, 1 ≤ c) ∧
      xs = expand cs (uniq xs) := ⟨uniq_noAdj xs, uniq_expand xs⟩

/-- MergeUnique of sorted distinct lists: sorted distinct, members = union -/
theorem C19_mergeUnique (xs ys : List Int) (hx : xs.Pairwise (· < ·)) (hy : ys.Pairwise (· < ·)) :
    (mergeUnique xs ys).Pairwise (· < ·) ∧ ∀ a, a ∈ mergeUnique xs ys ↔ a ∈ xs ∨ a ∈ ys :=
  ⟨pairwise_mergeUnique xs ys hx hy, mem_mergeUnique xs ys⟩

/-- InsertSortedUnique into a sorted distinct list: sorted distinct, members = old members plus x -/
theorem C19_insertSortedUnique (xs : List Int) (x : Int) (hx : xs.Pairwise (· < ·)) :
    (insertSortedUnique xs x).Pairwise (· < ·) ∧ ∀ a, a ∈ insertSortedUnique xs x ↔ a = x ∨ a ∈ xs :=
  ⟨pairwise_mergeUnique [x] xs (List.pairwise_singleton _ x) hx,
    fun a => (mem_mergeUnique [x] xs a).trans (or_congr_left List.mem_singleton)⟩

/-- vector Add on equal lengths: same length, element-wise sums -/
theorem C19_vadd (u v : List Int) (hl : u.length = v.length) :
    ∃ w : List Int, vadd u v = some w ∧ w.length = u.length ∧
      ∀ (i : Nat) (a b : Int), u[i]? = some a → v[i]? = some b → w[i]? = some (a + b) := by
  refine ⟨List.zipWith (· + ·) u v, if_pos hl, ?_, fun i a b ha hb => ?_⟩
  · rw [List.length_zipWith, ← hl, Nat.min_self]
  · rw [List.getElem?_zipWith, ha, hb]

/-- vector Lsh: same length, every element multiplied by 2^s -/
theorem C19_vlsh (v : List Int) (s : Nat) :
    (vlsh v s).length = v.length ∧ ∀ (i : Nat) (a : Int), v[i]? = some a → (vlsh v s)[i]? = some (a * (2 : Int) ^ s) :=
  ⟨List.length_map _, fun i a ha => by rw [vlsh, List.getElem?_map, ha]; rfl⟩

/-- non-vacuity -/
example : hex "f_F".toList = some 255 ∧ hex "_".toList = none ∧ extractI 0b110100 2 5 = 0b101 ∧
    uniq [1, 1, 2, 1] = [1, 2, 1] ∧ index 3 [5, 3, 3] = 1 ∧ isPow2 8 = true ∧ bitsSet 10 = [1, 3] := by decide
example : pow2UpTo 5 = [1, 2, 4] := by simp [pow2UpTo, pow2Loop]
example : mergeUnique [1, 3] [2, 3] = [1, 2, 3] := by simp [mergeUnique]

/-! ## the same statements about the functions AS TRANSLATED FROM THE CURRENT SOURCE

`AC.Gen.Bigint.*` is regenerated from internal/bigint/bigint.go on every run by the translator
`harness/cmd/extract/c19.go`; `AC/BigintTie.lean` proves the translated terms equal to the models. -/

/-- `Mask(l,h)` of the source, `l ≤ h`: exactly the bits `l ≤ i < h` are set -/
theorem C19_src_mask_testBit (l h : Nat) (hlh : l ≤ h) :
    ∃ m : Nat, AC.Gen.Bigint.mask l h = (m : Int) ∧ ∀ i, m.testBit i = true ↔ l ≤ i ∧ i < h := by
  rw [AC.BigintTie.mask_eq]; exact C19_mask_testBit l h hlh

/-- `Ones(n)` of the source is `2^n − 1` -/
theorem C19_src_ones (n : Nat) : AC.Gen.Bigint.ones n = (((2 ^ n - 1 : Nat)) : Int) := by
  rw [AC.BigintTie.ones_eq]; exact C19_ones n

/-- `Extract(x,l,h)` of the source, `x ≥ 0`, `l ≤ h`: `⌊x / 2^l⌋ mod 2^(h−l)` -/
theorem C19_src_extract (x l h : Nat) (hlh : l ≤ h) :
    AC.Gen.Bigint.extract (x : Int) l h = ((x / 2 ^ l % 2 ^ (h - l) : Nat) : Int) :=
  AC.BigintTie.extract_natCast x l h hlh

/-- `IsPow2` of the source is true exactly on the powers of two -/
theorem C19_src_isPow2_iff (x : Int) : AC.Gen.Bigint.isPow2 x = true ↔ ∃ k : Nat, x = (2 : Int) ^ k := by
  rw [AC.BigintTie.isPow2_eq]; exact C19_isPow2_iff x

/-- `MinMax` of the source returns the minimum and the maximum -/
theorem C19_src_minMax (x y : Int) :
    (AC.Gen.Bigint.minMax x y).1 = min x y ∧ (AC.Gen.Bigint.minMax x y).2 = max x y := by
  rw [AC.BigintTie.minMax_eq]; exact P.HX.minMax_spec x y

/-- `Equal`, `EqualInt64`, `IsZero`, `IsNonZero`, `Clone`, `Pow2` of the source -/
theorem C19_src_small (x y : Int) (e : Nat) :
    (AC.Gen.Bigint.equal x y = true ↔ x = y) ∧ (AC.Gen.Bigint.equalInt64 x y = true ↔ x = y) ∧
    (AC.Gen.Bigint.isZero x = true ↔ x = 0) ∧ (AC.Gen.Bigint.isNonZero x = true ↔ x ≠ 0) ∧
    AC.Gen.Bigint.clone x = x ∧ AC.Gen.Bigint.pow2 e = (2 : Int) ^ e :=
  ⟨AC.BigintTie.equal_iff x y, AC.BigintTie.equalInt64_iff x y, AC.BigintTie.isZero_iff x,
   AC.BigintTie.isNonZero_iff x, AC.BigintTie.clone_eq x, AC.BigintTie.pow2_eq e⟩

/-! ## internal/bigints helpers as translated (harness/cmd/extract/gotr.go, `AC/BigintsTie.lean`) -/
section SrcLists
open AC.Gen.Program

/-- translated `MergeUnique` of sorted distinct lists: never panics, never out of loop fuel; the result
    is sorted distinct and its members are the union -/
theorem C19_src_mergeUnique (xs ys : List Int) (hx : xs.Pairwise (· < ·)) (hy : ys.Pairwise (· < ·)) :
    ∃ r, bigintsMergeUnique xs ys = some r ∧ r.Pairwise (· < ·) ∧ ∀ a, a ∈ r ↔ a ∈ xs ∨ a ∈ ys :=
  ⟨_, AC.BigintsTie.mergeUnique_tie xs ys, C19_mergeUnique xs ys hx hy⟩

/-- translated `InsertSortedUnique` -/
theorem C19_src_insertSortedUnique (xs : List Int) (x : Int) (hx : xs.Pairwise (· < ·)) :
    ∃ r, bigintsInsertSortedUnique xs x = some r ∧ r.Pairwise (· < ·) ∧ ∀ a, a ∈ r ↔ a = x ∨ a ∈ xs :=
  ⟨_, AC.BigintsTie.insertSortedUnique_tie xs x, C19_insertSortedUnique xs x hx⟩

/-- translated `Unique`: on sorted input strictly ascending with the same members; on any input exactly
    the consecutive duplicates are removed -/
theorem C19_src_unique (xs : List Int) :
    ∃ r, bigintsUnique xs = some r ∧ (∀ a, a ∈ r ↔ a ∈ xs) ∧ NoAdj r ∧
      (xs.Pairwise (· ≤ ·) → r.Pairwise (· < ·)) :=
  ⟨_, AC.BigintsTie.unique_tie xs, mem_uniq xs, (C19_unique_general xs).1, fun hs => pairwise_uniq xs hs⟩

/-- translated `BitsSet` on a non-negative integer: no panic; strictly ascending; exactly the set bits -/
theorem C19_src_bitsSet (x : Nat) :
    ∃ r : List Nat, bigintBitsSet (x : Int) = some (r.map Int.ofNat) ∧ r.Pairwise (· < ·) ∧
      ∀ i, i ∈ r ↔ x.testBit i = true :=
  ⟨_, AC.BigintsTie.bitsSet_tie x, C19_bitsSet_spec x⟩

/-- translated `Pow2UpTo`: never panics, never out of loop fuel; empty for `x ≤ 0`, otherwise
    `1, 2, …, 2^k` with `2^k ≤ x < 2^(k+1)` -/
theorem C19_src_pow2UpTo (x : Int) :
    ∃ r : List Nat, bigintPow2UpTo x = some (r.map Int.ofNat) ∧ (x ≤ 0 → r = []) ∧
      (∀ n : Nat, x = (n : Int) → 1 ≤ n → ∃ k, r = (List.range (k + 1)).map (2 ^ ·) ∧ 2 ^ k ≤ n ∧ n < 2 ^ (k + 1)) := by
  refine ⟨_, AC.BigintsTie.pow2UpTo_tie x, C19_pow2UpTo_nonpos x, ?_⟩
  rintro n rfl hn
  exact C19_pow2UpTo_spec n hn

/-- translated `Contains`: never panics; true exactly when `n` is a member -/
theorem C19_src_contains (n : Int) (xs : List Int) :
    bigintsContains n xs = some (decide (n ∈ xs)) := by
  rw [AC.BigintsTie.contains_tie]; congr 1; simp

/-- translated `Index`: never panics; −1 when `n` is absent, otherwise the position of its first occurrence -/
theorem C19_src_index (n : Int) (xs : List Int) :
    ∃ r, bigintsIndex n xs = some r ∧ (n ∉ xs → r = -1) ∧
      (n ∈ xs → ∃ k, k < xs.length ∧ r = (k : Int) ∧ xs[k]? = some n ∧ ∀ j, j < k → xs[j]? ≠ some n) :=
  ⟨_, AC.BigintsTie.index_eq n xs, C19_index_spec n xs⟩
end SrcLists

end AC.Props.C19
