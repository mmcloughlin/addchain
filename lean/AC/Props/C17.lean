import AC.AllocBound
/-! # C17 — no more temporaries than simultaneously live values

Model: `AC.AllocX.allocateX` / `P.Alloc.run` (the reverse scan of `alloc.go`); `nVars ir` is the
final `allocation.n`. Independent notions written from the property text (`AC.PeakLive`):
`wfB` (well-formed), `allUsedB` (every computed value other than the last is read by some
instruction), `peakLive` (the maximum, over all program points, of the number of chain values
that exist at the point and are still needed at or after it — the final result counts as
needed). -/
namespace AC.Props.C17
open P.Alloc AC.AllocX AC.PeakLive

/-- For every well-formed non-empty program without dead values, in every naming configuration:
the number of declared temporaries is at most the number of variables of the allocation, which is
at most the peak number of simultaneously live chain values. (`allUsedB` is necessary: a dead
result takes a variable transiently.) -/
theorem C17_bound {α : Type} (cfg : Cfg α) (ir : List Inst)
    (hwf : wfB ir = true) (hne : ir ≠ []) (hu : allUsedB ir = true)
    (prog : List (NInst α)) (temps : List α) (h : allocateX cfg ir = .ok (prog, temps)) :
    temps.length ≤ nVars ir ∧ nVars ir ≤ peakLive ir := by
  have hWF := wf_of_wfB ir hwf hne
  obtain ⟨_, _, rfl⟩ := allocateX_ok h
  constructor
  · simp only [tempsOf, List.length_map, List.length_range]
    exact tmap_length_le ir
  · exact run_n_le (peakLive ir) ir hWF.wfs (fun pre inst suf e => distinctLE_peak ir hWF hu pre inst suf e)

/-- Storage of a dead value is always reused before a new variable is introduced: the allocation
creates a new variable only when the free list is empty, i.e. (by the allocator invariant
`P.Alloc.Inv.cover`) when every existing variable is held by a value that is still live. -/
theorem C17_reuse_first (s : St) (i : Nat) (h : (s.allocate i).n ≠ s.n) :
    s.avail = [] ∧ s.var i = none ∧ (s.allocate i).n = s.n + 1 := by
  cases hv : s.var i with
  | some v => exact absurd (by rw [allocate_of_some hv]) h
  | none =>
    obtain ⟨v, _, ⟨_, hn⟩ | ⟨ha, _, _, hn⟩⟩ := allocate_none hv
    · exact absurd hn h
    · exact ⟨ha, rfl, hn⟩

/-- the free list is used LIFO: a freed variable is the next one handed out -/
theorem C17_freed_is_next (s : St) (v i : Nat) (hi : s.var i = none) :
    ((s.free v).allocate i).var i = some v ∧ ((s.free v).allocate i).n = s.n := by
  obtain ⟨w, hvar, ⟨ha, hn⟩ | ⟨ha, _⟩⟩ := allocate_none (s := s.free v) hi
  · cases (List.append_inj' (show s.avail ++ [v] = _ ++ [w] from ha) rfl).2
    exact ⟨by simp [hvar], hn⟩
  · exact absurd ha (List.append_ne_nil_of_right_ne_nil _ (List.cons_ne_nil v []))

/-- non-vacuity: `1:D(0); 2:A(0,1); 3:A(1,2)` has no dead value and peak liveness 2 -/
example : allUsedB [⟨1, .dbl 0⟩, ⟨2, .add 0 1⟩, ⟨3, .add 1 2⟩] = true ∧
    peakLive [⟨1, .dbl 0⟩, ⟨2, .add 0 1⟩, ⟨3, .add 1 2⟩] = 2 := by decide

end AC.Props.C17
