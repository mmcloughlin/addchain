import AC.AllocXProof
/-! # C05 — allocated programs compute the chain, also when the output aliases the input

Model: `AC.AllocX.allocateX` (= `Allocator.Execute` of `acc/pass/alloc.go`: reverse scan with a
LIFO free list, `lastinputread`, the naming loop over the sorted operand indexes with temporaries
numbered in ascending index order) and `AC.AllocX.execX` (= the interpreter of
`acc/eval/interp.go`: create the output register, load the operands — an undefined one is an
error —, write the result; with aliasing the output name denotes the input register).

Well-formedness is the executable check `AC.PeakLive.wfB`, written from the property text: outputs
are ≥ 1 and strictly increasing, every input is element 0 or the output of an earlier instruction.
`chainEnd ir` is the value of the last chain element (the result of the last instruction) when
element 0 is 1; for an input value `v` the registers hold `v` times the chain values. -/
namespace AC.Props.C05
open P.Alloc AC.AllocX AC.PeakLive

/-- For every well-formed non-empty program, every naming configuration with pairwise distinct
input / output / temporary names, both alias modes and every input value `v`: allocation
succeeds; running the allocated program on the register machine from the state in which only the
input register is defined (value `v`) succeeds (no operand is ever undefined) and leaves
`chainEnd ir * v` in the output register (which is the input register in alias mode); no
instruction writes the input name; every operand carries a name — the input name, the output
name or a declared temporary. -/
theorem C05_correct {α : Type} [DecidableEq α] (cfg : Cfg α) (ir : List Inst)
    (hwf : wfB ir = true) (hne : ir ≠ []) (hd : NamesDistinct cfg) (alias : Bool) (v : Int) :
    ∃ prog temps, allocateX cfg ir = .ok (prog, temps) ∧
      (∃ st, execX cfg alias prog (initX cfg v) = .ok st ∧
        getX st (cellX cfg alias cfg.output) = some (chainEnd ir * v)) ∧
      (∀ i ∈ prog, i.out ≠ cfg.input) ∧
      (∀ n ∈ usedNames prog, n = cfg.input ∨ n = cfg.output ∨ n ∈ temps) := by
  have hWF := wf_of_wfB ir hwf hne
  refine ⟨_, _, allocateX_eq cfg ir hne, ?_, ?_, ?_⟩
  · have hdist : ∀ pre inst suf, ir = pre ++ inst :: suf → ∀ j ∈ liveAt suf, j ≠ inst.out →
        cellX cfg alias (nameX cfg ir j) ≠ cellX cfg alias (nameX cfg ir inst.out) := by
      intro pre inst suf e j hj hjo
      subst e
      exact cellX_live_distinct hd alias pre inst suf hWF.wfs hWF.outs j hj hjo
    have h0 : SimX cfg alias v (nameX cfg ir) [] ir (initX cfg v) := by
      rintro i (hi | e)
      · cases hWF.closed i hi
        have hn : nameX cfg ir 0 = cfg.input := by simp [nameX, regOf, nameOf]
        have hc : cellX cfg alias cfg.input = cfg.input := by
          unfold cellX; split <;> rfl
        rw [hn, hc]
        simp [initX, updX, getX, envV, upd]
      · cases e
    obtain ⟨st, he, hs⟩ := simX_run cfg alias v (nameX cfg ir) ir hdist ir [] (initX cfg v) rfl h0
    obtain ⟨init, last, rfl⟩ : ∃ init last, ir = init ++ [last] :=
      ⟨ir.dropLast, ir.getLast hne, (List.dropLast_concat_getLast hne).symm⟩
    refine ⟨st, he, ?_⟩
    have hz : nameX cfg (init ++ [last]) last.out = cfg.output := by
      simp [nameX, regOf_last init last hWF.outs, nameOf]
    rw [← hz, hs last.out (Or.inr (by simp)), envV_linear, chainEnd, lastOut_snoc]
  · intro i hi
    obtain ⟨inst, hinst, rfl⟩ := List.mem_map.mp hi
    show nameX cfg ir inst.out ≠ cfg.input
    have hpos : 1 ≤ inst.out := strictOuts_pos ir hWF.outs inst.out (List.mem_map_of_mem hinst)
    have hop : inst.out ∈ operandIdx ir := (mem_operandIdx ir _).mpr ⟨inst, hinst, Or.inr rfl⟩
    intro e
    have : regOf ir inst.out = .x :=
      nameOf_inj hd _ _ _ (regOf_InS ir _ hop) trivial (by simpa [nameX, nameOf] using e)
    exact Nat.ne_of_gt hpos (regOf_eq_x.mp this)
  · intro n hn
    rw [usedNames_map] at hn
    obtain ⟨i, hi, rfl⟩ := List.mem_map.mp hn
    exact nameX_cases cfg ir i hi

/-- The declared temporaries are exactly the names used other than the input and the output name,
and no temporary is declared twice. -/
theorem C05_temporaries_exact {α : Type} (cfg : Cfg α) (ir : List Inst)
    (hd : NamesDistinct cfg) (prog : List (NInst α)) (temps : List α)
    (h : allocateX cfg ir = .ok (prog, temps)) :
    temps.Nodup ∧ ∀ n, n ∈ temps ↔ (n ∈ usedNames prog ∧ n ≠ cfg.input ∧ n ≠ cfg.output) := by
  obtain ⟨_, rfl, rfl⟩ := allocateX_ok h
  have hA := buildA_nodup (regOf ir) (indexes ir)
  constructor
  · unfold tempsOf
    rw [List.nodup_iff_pairwise_ne, List.pairwise_map]
    have := List.nodup_range (n := (buildA (regOf ir) (indexes ir)).length)
    rw [List.nodup_iff_pairwise_ne] at this
    exact this.imp (fun hab e => hab (hd.tt _ _ e))
  · intro n
    rw [usedNames_map]
    constructor
    · intro hn
      simp only [tempsOf, List.mem_map, List.mem_range] at hn
      obtain ⟨k, hk, rfl⟩ := hn
      refine ⟨?_, hd.ti k, hd.to k⟩
      obtain ⟨i, hi, hr⟩ := (mem_buildA _ _ _).mp (List.getElem_mem hk)
      refine List.mem_map.mpr ⟨i, (mem_indexes ir i).mp hi, ?_⟩
      simp only [nameX, hr, nameOf]
      rw [pos_getElem _ k hk hA]
    · rintro ⟨hn, hni, hno⟩
      obtain ⟨i, hi, rfl⟩ := List.mem_map.mp hn
      exact ((nameX_cases cfg ir i hi).resolve_left hni).resolve_left hno

/-- the empty program is refused (`Allocator.Execute`: "allocator: program has no instructions") -/
theorem C05_empty_refused {α : Type} (cfg : Cfg α) : ∃ e, allocateX cfg [] = .error e := ⟨_, rfl⟩

/-- `t0, t1, …` style names: a prefix followed by the decimal number is injective in the number -/
theorem C05_format_injective (pre : String) (j k : Nat)
    (h : pre ++ toString j = pre ++ toString k) : j = k := by
  have h1 : (pre ++ toString j).toList = (pre ++ toString k).toList := by rw [h]
  simp only [String.toList_append, List.append_cancel_left_eq] at h1
  have h2 : j.repr.toList = k.repr.toList := h1
  rw [Nat.toList_repr, Nat.toList_repr] at h2
  have := congrArg (fun l => Nat.ofDigitChars 10 l 0) h2
  simpa [Nat.ofDigitChars_ten_toDigits] using this

/-- non-vacuity: `1:D(0); 2:A(0,1); 3:A(1,2)` is well-formed -/
example : wfB [⟨1, .dbl 0⟩, ⟨2, .add 0 1⟩, ⟨3, .add 1 2⟩] = true := by decide

end AC.Props.C05
