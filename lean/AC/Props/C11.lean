import AC.RunsProof
import AC.RunsTie
/-! # C11 — a chain of run lengths becomes a valid chain of the runs themselves

Model: `P.runsChainX` (alg/dict/runs.go `RunsChain`): `Chain.Program`, `MinMax` by value, the
`IsUint64` refusal, the shift-extension loop with the map `s`, `Ones(la+lb)`. -/
namespace AC.Props.C11
open P

/-- for every valid chain of run lengths (any element order) below a machine word: the derived
    chain is a valid addition chain containing `2^l − 1` for every length `l` of the input -/
theorem C11_runsChain (lc : Chain) (hc : IsChain lc) (hsmall : ∀ l ∈ lc, l < 2 ^ 64) :
    ∃ c, runsChainX lc = .ok c ∧ IsChain c ∧ ∀ l ∈ lc, onesI l.toNat ∈ c :=
  runsChainX_ok lc hc hsmall

/-- core: from `{1}`, after any sequence of length additions `(la, lb)` each over lengths already
    reached and producing a new length, the state of `RunsChain` (chain + largest shift per length,
    including the inner shift-extension loop) is an addition chain containing `2^l − 1` for every
    length reached -/
theorem C11_runs_ok (steps : List (Nat × Nat)) (hv : ValidSteps [1] steps) :
    let st := runSteps ⟨[1], fun _ => 0⟩ steps
    IsChain st.c ∧ ∀ l ∈ lensAfter [1] steps, onesI l ∈ st.c := runs_ok steps hv

/-- a run length that is negative or too large for a machine word is refused -/
theorem C11_refuse (lc : Chain) (p : List Op) (hp : program lc = .ok p)
    (h : ∃ o ∈ p, ¬ (0 ≤ at' lc o.1 ∧ at' lc o.1 < 2 ^ 64) ∨ ¬ (0 ≤ at' lc o.2 ∧ at' lc o.2 < 2 ^ 64)) :
    runsChainX lc = .error .tooLarge := by
  unfold runsChainX
  rw [hp]
  dsimp only
  obtain ⟨o, ho, hbad⟩ := h
  have : (p.all fun o => isUint64 (at' lc o.1) && isUint64 (at' lc o.2)) = false := by
    rw [List.all_eq_false]
    refine ⟨o, ho, ?_⟩
    unfold isUint64
    rcases hbad with hb | hb
    · simp only [Bool.and_eq_true, decide_eq_true_eq]; intro h; exact hb h.1
    · simp only [Bool.and_eq_true, decide_eq_true_eq]; intro h; exact hb h.2
  rw [this]; rfl

theorem C11_refuse_invalid (lc : Chain) (h : ¬ IsChain lc) : runsChainX lc = .error .invalid := by
  unfold runsChainX
  cases hp : program lc with
  | error e => rfl
  | ok p => exact absurd ((validate_iff lc).1 ⟨p, hp⟩) h

/-- non-vacuity: a non-ascending lengths chain -/
example : ValidSteps [1] [(1,1),(2,2),(1,2)] := by simp [ValidSteps]

/-! ## `dict.RunsChain` as TRANSLATED from runs.go

`AC/Gen/ProgramFns.lean` is regenerated from alg/dict/runs.go on every run (harness/cmd/extract/gotr.go);
`AC/RunsTie.lean` proves the translated function equal to the model (`runsChain_tie`: every input, no
panic; `Chain.Program` through `program_tie`, the shift map as a function, the `for ; s[lb] < la; s[lb]++`
loop as `extend`). The property over the translated Go function itself: -/

/-- the translated `RunsChain` on a valid lengths chain with machine-word values returns, without error, a
    valid addition chain containing `2^l − 1` for every length `l` of the input -/
theorem C11_src_runsChain (lc : Chain) (hc : IsChain lc) (hsmall : ∀ l ∈ lc, l < 2 ^ 64) :
    ∃ c, AC.Gen.Program.dictRunsChain lc = some (c, none) ∧ IsChain c ∧ ∀ l ∈ lc, onesI l.toNat ∈ c := by
  obtain ⟨c, h1, h2, h3⟩ := C11_runsChain lc hc hsmall
  obtain ⟨r, hr, hm⟩ := AC.RunsTie.runsChain_tie lc
  rw [h1] at hm
  exact ⟨c, by rw [hr, hm], h2, h3⟩

/-- a sequence that is not an addition chain is refused by the translated `RunsChain` (nil chain, an error) -/
theorem C11_src_refuse_invalid (lc : Chain) (h : ¬ IsChain lc) :
    ∃ r, AC.Gen.Program.dictRunsChain lc = some r ∧ r.1 = [] ∧ r.2.isSome = true := by
  obtain ⟨r, hr, hm⟩ := AC.RunsTie.runsChain_tie lc
  rw [C11_refuse_invalid lc h] at hm
  exact ⟨r, hr, hm⟩

end AC.Props.C11
