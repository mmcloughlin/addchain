import AC.SearchX
/-! # C14 — the search command's report is self-consistent, minimal and reproducible

Model: `P.SearchX` — `argminFirst`/`minCost` (the selection loop of cmd/addchain/search.go: strict
`<` starting from +∞, so the first index attaining the minimum wins), `costOf` (the weighted
`Program.Count`, integer weights) and `search` over abstract parts.  Proved here: the selection
lemma, the cost/count lemma and the composition *conditional on* the parts' obligations
(`PartsOK`: C01 for the algorithms, C04/C07/C03 for emit/load).  Outside the model: float64 cost
arithmetic, processes, the scheduler (DESIGN §8) — these are covered by the harness only. -/
namespace AC.Props.C14
open P P.SearchX

/-- the selection loop returns the *first* index attaining the minimum cost, and reports that
    minimum: the index is in range, no result is cheaper, every earlier result is strictly more
    expensive -/
theorem C14_argmin_first (costs : List Int) (hne : costs ≠ []) :
    ∃ i, argminFirst costs = some i ∧ ∃ hi : i < costs.length,
      minCost costs = some costs[i] ∧ (∀ c ∈ costs, costs[i] ≤ c) ∧
      ∀ j (hj : j < i), costs[i] < costs[j] :=
  argminFirst_spec costs hne

/-- the reported minimum is one of the computed costs and a lower bound of all of them -/
theorem C14_min_is_cost (c0 : Int) (rest : List Int) :
    ∃ m, minCost (c0 :: rest) = some m ∧ (∀ c ∈ c0 :: rest, m ≤ c) ∧ m ∈ c0 :: rest :=
  P.Argmin.scan_min c0 rest

/-- the cost of a program is `D·doublings + A·additions`, where a doubling is an operation with
    equal operands, an addition any other operation, and the two counts add up to the number of
    operations (`Program.Count`) -/
theorem C14_cost_count (A D : Int) (p : List Op) :
    costOf A D p = D * (p.countP (fun o => o.1 == o.2) : Nat) + A * (p.countP (fun o => !(o.1 == o.2)) : Nat) ∧
    p.countP (fun o => o.1 == o.2) + p.countP (fun o => !(o.1 == o.2)) = p.length := by
  have h := PX.count_eq p
  have hs := PX.count_sum p
  rw [h] at hs
  refine ⟨?_, hs⟩
  unfold costOf
  rw [h]

/-- with unit weights the cost is the length of the chain minus one -/
theorem C14_cost_unit (p : List Op) : costOf 1 1 p = p.length := by
  unfold costOf
  have := PX.count_sum p
  omega

/-- composition, conditional on the parts' obligations: a successful search prints a script that
    loads to a chain ending in the value of the expression (which is ≥ 1), reports exactly the
    weighted operation count of that script, and no algorithm result is cheaper -/
theorem C14_search_composed_partial (Q : Parts) (ok : PartsOK Q) : SearchSpec Q := search_spec Q ok

/-- Full statement: the conclusion of C14 — `search e = ok (txt, cost)` implies that `txt`
    loads to a chain ending in ⟦e⟧ ≥ 1, `cost` is the weighted operation count of the loaded program
    and no algorithm result is cheaper — for the *concrete* addchain parts `Q`: `algs` = the 200
    models of `ensemble.Ensemble()` wrapped in `opt` (C01, C10), `emit` = printer ∘ `buildX` ∘
    `decompileX` (C04, C07), `load` = eval ∘ translate ∘ parse (C03); `calc.Eval` is already the
    concrete `AC.Calc.eval` (C13).  It follows from `C14_search_composed_partial` when `PartsOK` holds
    for these parts; over the concrete models of C01, C04, C07, C03 it is proved directly, with a size
    bound on the selected program, as `C14_search_concrete` (`AC/SearchCompose.lean`); the acceptance of
    the script by `fmt`, `fmt -b` and (for n ≥ 2) `gen` is C07/C04/C06 applied to the emitted text. -/
def C14_search_Statement (Q : Parts) : Prop := SearchSpec Q

/-- non-vacuity: the first of two equal minima is chosen, and costs weigh doublings and additions -/
example : argminFirst [7, 5, 9, 5] = some 1 ∧ minCost [7, 5, 9, 5] = some 5 ∧
    costOf 3 2 [(0, 0), (0, 1), (2, 2)] = 2 * 2 + 3 * 1 := by decide

end AC.Props.C14
