import AC.SemXSpec
import AC.SemXText
/-! # C03 — loading a script yields the chain defined by grammar and semantics

Model (`AC/SemX.lean`): `translate` (acc/translate.go: 64-bit counter, name table, operand swap, shift
output index `n-1+int(S)`), `compile` (pass.Compile over addchain.Program: `boundscheck`, `Shift(i,0)`
unchecked, output-index cross-check), `evaluate`, `load` = their composition (= `acc.LoadString` after
parsing). Spec: `denote` — the direct big-step semantics (statements in order, operands left to right,
state = the chain so far). The parser model is `P.PegF.parse` (`AC/PegFull.lean`, property C07's side);
`loadText` composes it with `load`.

`Expr.operand i` is `[i]` (`1` is `[0]`), `St.has a` says element `a` has been computed, `St.val a` is
its value. -/
namespace AC.Props.C03
open P.SemX

/-- a tree describing fewer than 2^63 chain elements (a Go slice cannot hold more; the translator's
    `int` counter cannot overflow on such a tree) -/
def Small (t : Tree) : Prop := (weightS t : Int) + 1 < 9223372036854775808

/-- **Refinement.** For every tree, translate → compile → evaluate yields exactly what the direct
    semantics yields (same chain, same op list) and is an error exactly when the direct semantics
    rejects. -/
theorem C03_load_eq_denote (t : Tree) (h : Small t) : (load t).toOption = denote t :=
  load_eq_denote t h

/-- the load succeeds with chain and op list `st` iff the direct semantics yields `st` -/
theorem C03_load_ok_iff (t : Tree) (h : Small t) (st : St) : load t = .ok st ↔ denote t = some st := by
  rw [← C03_load_eq_denote t h]
  cases load t with
  | error e => simp [Except.toOption]
  | ok s => simp [Except.toOption]

/-- the load fails iff the direct semantics rejects -/
theorem C03_load_error_iff (t : Tree) (h : Small t) : (∃ e, load t = .error e) ↔ denote t = none := by
  rw [← C03_load_eq_denote t h]
  cases load t with
  | error e => simp [Except.toOption]
  | ok s => simp [Except.toOption]

/-! `denote` read as the property text. -/

/-- `[i]` (and `1` = `[0]`) denotes element `i`; evaluating it appends nothing and checks nothing -/
theorem C03_denote_spec_index (st : St) (env : Env) (i : Int) :
    dExpr st env (.operand i) = some (st, i) := rfl

/-- `1` denotes the first element, whose value is 1, in every state the semantics reaches -/
theorem C03_denote_spec_one (t : Tree) (st : St) (h : denote t = some st) :
    st.val 0 = 1 ∧ ∀ env, dExpr st env (.operand 0) = some (st, 0) := by
  obtain ⟨l, hl⟩ := dStmts_prefix h
  refine ⟨?_, fun _ => rfl⟩
  simp [St.val, ← hl, St.init]

/-- a name denotes the element bound to it -/
theorem C03_denote_spec_ident (st : St) (env : Env) (s : String) (x : Int) (h : lookup env s = some x) :
    dExpr st env (.ident s) = some (st, x) := by
  simp [dExpr, h]

/-- an addition evaluates its operands left to right and appends exactly one element, the sum of the
    two operand elements; its result is the index of that new element -/
theorem C03_denote_spec_add (st st1 st2 : St) (env : Env) (x y : Expr) (a b : Int)
    (hx : dExpr st env x = some (st1, a)) (hy : dExpr st1 env y = some (st2, b))
    (ha : st2.has a) (hb : st2.has b) :
    ∃ ops', dExpr st env (.add x y) =
      some (⟨st2.chain ++ [st2.val a + st2.val b], ops'⟩, (st2.chain.length : Int)) := by
  refine ⟨st2.ops ++ [((min a b).toNat, (max a b).toNat)], ?_⟩
  simp only [dExpr, hx, hy]
  exact step_ok st2 a b ha hb

/-- a doubling appends exactly one element, twice its operand element -/
theorem C03_denote_spec_double (st st1 : St) (env : Env) (x : Expr) (a : Int)
    (hx : dExpr st env x = some (st1, a)) (ha : st1.has a) :
    ∃ ops', dExpr st env (.double x) =
      some (⟨st1.chain ++ [st1.val a + st1.val a], ops'⟩, (st1.chain.length : Int)) := by
  refine ⟨st1.ops ++ [((min a a).toNat, (max a a).toNat)], ?_⟩
  simp only [dExpr, hx]
  exact step_ok st1 a a ha ha

/-- a shift by `s ≥ 1` appends exactly `s` successive doublings `2v, 4v, …, 2^s v` of its operand
    element `v`; its result is the index of the last of them -/
theorem C03_denote_spec_shift (st st1 : St) (env : Env) (x : Expr) (s : Nat) (a : Int) (hs : 1 ≤ s)
    (hx : dExpr st env x = some (st1, a)) (ha : st1.has a) :
    ∃ ops', dExpr st env (.shift x s) =
      some (⟨st1.chain ++ (List.range s).map (fun k => 2 ^ (k+1) * st1.val a), ops'⟩,
            (st1.chain.length : Int) + s - 1) := by
  obtain ⟨ops', h⟩ := doubles_spec hs st1 a ha
  refine ⟨ops', ?_⟩
  simp only [dExpr, hx]
  rw [if_neg (Nat.ne_of_gt hs), h]

/-- statements are evaluated in order; a statement binds its name to the element its expression
    produced (the return statement binds the empty name) … -/
theorem C03_denote_spec_stmt (st st' : St) (env : Env) (name : String) (e : Expr) (x : Int)
    (r : List Stmt) (he : dExpr st env e = some (st', x)) (hn : lookup env name = none) :
    dStmts st env (⟨name, e⟩ :: r) = dStmts st' ((name, x) :: env) r := by
  simp [dStmts, he, hn]

/-- … and in the rest of the script that name denotes exactly that element, while every other name
    keeps its meaning -/
theorem C03_denote_spec_name (env : Env) (name : String) (x : Int) :
    lookup ((name, x) :: env) name = some x ∧
    ∀ other, name ≠ other → lookup ((name, x) :: env) other = lookup env other :=
  ⟨lookup_cons_self env name x, fun other h => lookup_cons_ne env name other x h⟩

/-- a use of an undefined name is rejected -/
theorem C03_rejects_undefined (st : St) (env : Env) (s : String) (h : lookup env s = none) :
    dExpr st env (.ident s) = none := by
  simp [dExpr, h]

/-- a redefinition is rejected -/
theorem C03_rejects_redefinition (st : St) (env : Env) (name : String) (e : Expr) (r : List Stmt)
    (v : Int) (h : lookup env name = some v) : dStmts st env (⟨name, e⟩ :: r) = none := by
  simp only [dStmts, h]
  cases dExpr st env e with
  | none => rfl
  | some r => rfl

/-- an addition, doubling or shift (by `s ≥ 1`) applied to an element index that has not been computed
    at the time of the operation is rejected -/
theorem C03_rejects_index (st st1 st2 : St) (env : Env) (x y : Expr) (a b : Int) (s : Nat) :
    (dExpr st env x = some (st1, a) → dExpr st1 env y = some (st2, b) → (¬ st2.has a ∨ ¬ st2.has b) →
      dExpr st env (.add x y) = none) ∧
    (dExpr st env x = some (st1, a) → ¬ st1.has a → dExpr st env (.double x) = none) ∧
    (dExpr st env x = some (st1, a) → ¬ st1.has a → 1 ≤ s → dExpr st env (.shift x s) = none) := by
  refine ⟨?_, ?_, ?_⟩
  · intro hx hy h
    simp only [dExpr, hx, hy]
    exact step_none st2 a b h
  · intro hx h
    simp only [dExpr, hx]
    exact step_none st1 a a (Or.inl h)
  · intro hx h hs
    simp only [dExpr, hx]
    rw [if_neg (Nat.ne_of_gt hs)]
    exact doubles_none hs st1 a h

/-- a rejected sub-expression rejects the expression, a rejected statement rejects the script -/
theorem C03_rejects_propagates (st : St) (env : Env) (x y : Expr) (s : Nat) (name : String)
    (r : List Stmt) (h : dExpr st env x = none) :
    dExpr st env (.add x y) = none ∧ dExpr st env (.double x) = none ∧
    dExpr st env (.shift x s) = none ∧ dStmts st env (⟨name, x⟩ :: r) = none ∧
    (∀ st1 a, dExpr st env y = some (st1, a) → dExpr st1 env x = none →
      dExpr st env (.add y x) = none) := by
  refine ⟨by simp [dExpr, h], by simp [dExpr, h], by simp [dExpr, h], by simp [dStmts, h], ?_⟩
  intro st1 a hy hx
  simp [dExpr, hy, hx]

/-- **Rejection.** Whatever the direct semantics rejects (undefined name, redefinition, operation on
    an index not yet computed, …) makes the load fail with an error: no chain is produced. -/
theorem C03_rejects (t : Tree) (h : Small t) (hd : denote t = none) : ∃ e, load t = .error e :=
  (C03_load_error_iff t h).2 hd

/-! The shift-by-0 quirk (outside the property text, which speaks of `s ≥ 1`). -/

/-- `x << 0` appends nothing and is accepted iff `x` is the most recent element of the chain
    (`Program.Shift(i, 0)` returns `i` unchecked; `pass.Compile`'s cross-check `out != Output.Index`
    then compares `i` with `n - 1`) -/
theorem C03_shift_zero (st : St) (env : Env) (x : Expr) :
    dExpr st env (.shift x 0) =
      match dExpr st env x with
      | none => none
      | some (st1, a) => if a = (st1.chain.length : Int) - 1 then some (st1, a) else none := by
  simp only [dExpr]
  cases dExpr st env x with
  | none => rfl
  | some r => rfl

/-- instances on the pipeline itself: `return 1 << 0` loads to the chain `[1]`;
    `a = 1 + 1 / b = 1 + 1 / return a << 0` fails the cross-check; `return [1] << 0` too -/
theorem C03_shift_zero_load :
    load [⟨"", .shift (.operand 0) 0⟩] = .ok ⟨[1], []⟩ ∧
    load [⟨"a", .add (.operand 0) (.operand 0)⟩, ⟨"b", .add (.operand 0) (.operand 0)⟩,
          ⟨"", .shift (.ident "a") 0⟩] = .error .outputindex ∧
    load [⟨"", .shift (.operand 1) 0⟩] = .error .outputindex := by
  refine ⟨by rfl, by rfl, by rfl⟩

/-- the cross-check of `pass.Compile` never fires on translator output unless the script contains a
    shift by 0 -/
theorem C03_crosscheck_only_shift_zero (t : Tree) (h : Small t)
    (he : load t = .error .outputindex) : (t.any fun s => hasShift0 s.e) = true := by
  unfold load translate compile at he
  cases ht : tStmts [] 1 t with
  | error e =>
    rw [ht] at he
    cases he
    exact absurd rfl (tStmts_err ht)
  | ok ir =>
    rw [ht] at he
    dsimp only at he
    cases hc : cAll [] ir with
    | error e =>
      rw [hc] at he
      cases he
      obtain ⟨i, hi, a, ha⟩ := ((tStmts_sim [] 1 t [] rfl (Fits.nil h)).2 ir ht).2 hc
      exact tStmts_shl0 ht hi ha
    | ok p => rw [hc] at he; cases he

/-- **Composition with the parser model.** If the text parses to tree `t` then loading the text yields
    exactly what the direct semantics assigns to `t`; a text outside the grammar is rejected. -/
theorem C03_load_text (s : List Char) (t : P.PegF.Tree) (hp : P.PegF.parse s = .ok t)
    (h : Small (ofPegTree t)) : (loadText s).toOption = denote (ofPegTree t) := by
  unfold loadText
  rw [hp]
  dsimp only
  rw [← C03_load_eq_denote _ h]
  cases load (ofPegTree t) with
  | error e => rfl
  | ok st => rfl

theorem C03_load_text_reject (s : List Char) (hp : P.PegF.parse s = .error ()) :
    loadText s = .error .parse := by
  unfold loadText
  rw [hp]

/-- OPEN (shared with C07): the parser model computes exactly the tree the published grammar assigns.
    `Renders` is to be the inductive, nondeterministic printer of the grammar `acc.peg` (every operator
    spelling, literal base, `[ \t\r]*` whitespace, redundant parentheses, optional `return`, optional
    final newline, with the PEG's follow restrictions as side conditions); the statement is soundness and
    completeness of `P.PegF.parse` with respect to it, which together with `C03_load_text` gives the
    property at text level. -/
def C03_text_Statement (Renders : P.PegF.Tree → List Char → Prop) : Prop :=
  (∀ t s, Renders t s → P.PegF.parse s = .ok t) ∧
  (∀ s t, P.PegF.parse s = .ok t → Renders t s) ∧
  (∀ s t, Renders t s → Small (ofPegTree t) → (loadText s).toOption = denote (ofPegTree t)) ∧
  (∀ s, (¬ ∃ t, Renders t s) → loadText s = .error .parse)

/-- OPEN: without the size bound — a tree with a shift amount `≥ 2^63` or more than `2^63` elements
    either fails on its first bounds check or does not terminate in the implementation; the model's
    `wrap64` arithmetic mirrors the translator but no theorem covers it. -/
def C03_unbounded_Statement : Prop :=
  ∀ t : Tree, (∀ st, load t = .ok st → denote t = some st)

/-- non-vacuity: `a = 1 << 3 / b = a / return b + [2] + (2 * 1)`: nesting, an alias, an index operand
    into the middle of a shift; the model load and the direct semantics give the same chain. -/
example :
    let t : Tree := [⟨"a", .shift (.operand 0) 3⟩, ⟨"b", .ident "a"⟩,
      ⟨"", .add (.add (.ident "b") (.operand 2)) (.double (.operand 0))⟩]
    load t = .ok ⟨[1, 2, 4, 8, 12, 2, 14], [(0,0), (1,1), (2,2), (2,3), (0,0), (4,5)]⟩ ∧
    denote t = some ⟨[1, 2, 4, 8, 12, 2, 14], [(0,0), (1,1), (2,2), (2,3), (0,0), (4,5)]⟩ := by
  refine ⟨by rfl, by rfl⟩

end AC.Props.C03
