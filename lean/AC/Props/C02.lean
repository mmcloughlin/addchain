import AC.ChainX
import AC.ChainTie
/-! # C02 — chain validation accepts exactly the addition chains and lists exactly their ops

Model: `P.isAscending`, `P.ops` (two-pointer and quadratic paths), `P.program`, `P.validate`,
`P.produces`, `P.superset`, `P.evaluate` (chain.go, program.go). Spec: `P.IsChain`. -/
namespace AC.Props.C02
open P

/-- validation succeeds iff the sequence is an addition chain -/
theorem C02_validate_iff (c : Chain) : validate c = true ↔ IsChain c := validate_eq_true_iff c

/-- 'produces n' adds exactly `last = n` -/
theorem C02_produces_iff (c : Chain) (t : Int) :
    produces c t = true ↔ IsChain c ∧ c.getLast? = some t := by
  unfold produces
  simp [validate_eq_true_iff]

/-- 'superset of targets' adds exactly that every target is present -/
theorem C02_superset_iff (c : Chain) (ts : List Int) :
    superset c ts = true ↔ IsChain c ∧ ∀ t ∈ ts, t ∈ c := by
  unfold superset
  simp [validate_eq_true_iff]

/-- 'ascending' holds exactly for strictly increasing sequences beginning with 1 -/
theorem C02_isAscending_iff (c : Chain) :
    isAscending c = true ↔ c.head? = some 1 ∧ c.Pairwise (· < ·) := isAscending_iff c

/-- the listed operations at position `k` are exactly the pairs `i ≤ j < k` summing to element `k`,
    whatever the order of the elements (both code paths); their order is `C02_ops_eq_spec` with `C02_ops_sorted` -/
theorem C02_ops_mem (c : Chain) (k i j : Nat) (hk : k < c.length) :
    (i, j) ∈ ops c k ↔ i ≤ j ∧ j < k ∧ at' c i + at' c j = at' c k := mem_ops c k i j hk

theorem C02_ops_eq_spec (c : Chain) (k : Nat) (hk : k < c.length) : ops c k = opsSpec c k :=
  ops_eq_spec c k hk

theorem C02_ops_sorted (c : Chain) (k : Nat) : (opsSpec c k).Pairwise lexLt := quadOps_sorted c k

/-- the program derived from a valid chain evaluates back to that chain, one op per non-initial element -/
theorem C02_program_evaluate (c : Chain) (p : List Op) (h : program c = .ok p) :
    evaluate p = c ∧ p.length + 1 = c.length :=
  ⟨program_evaluate c p h, (program_spec c p h).1⟩

/-- non-vacuity: a valid non-ascending chain with a position having two ops -/
example : IsChain [1,2,4,3,5] ∧ ops [1,2,4,3,5] 4 = [(0,2),(1,3)] :=
  ⟨(isChainB_iff _).1 (by decide), by rw [ops_eq_spec _ _ (by decide)]; decide⟩

/-! ## `Chain.Ops` and `Chain.IsAscending` as TRANSLATED from chain.go

`AC/Gen/ProgramFns.lean` is regenerated from chain.go on every run (harness/cmd/extract/gotr.go);
`AC/ChainTie.lean` proves the translated functions equal to the model. The operation-listing clause of
the property, stated over the translated Go function itself: -/
section Src
open AC.Gen.Program AC.GoPrim AC.ProgramTie

/-- the translated `Chain.Ops(k)` never panics and never runs out of loop fuel for `k < len(c)`, and
    returns exactly the pairs `i ≤ j < k` with `c[i] + c[j] = c[k]` in lexicographic order, whether
    the two-pointer path or the quadratic path is taken -/
theorem C02_src_ops (c : Chain) (k : Nat) (hk : k < c.length) :
    chainOps c (k : Int) = some (toGs (opsSpec c k)) ∧
    (∀ i j, (i, j) ∈ opsSpec c k ↔ i ≤ j ∧ j < k ∧ at' c i + at' c j = at' c k) ∧
    (opsSpec c k).Pairwise lexLt := by
  refine ⟨by rw [AC.ChainTie.ops_tie c k hk, ops_eq_spec c k hk], fun i j => ?_, quadOps_sorted c k⟩
  rw [← ops_eq_spec c k hk]; exact mem_ops c k i j hk

/-- the translated `Chain.IsAscending` never panics and decides "starts at 1 and strictly increasing" -/
theorem C02_src_isAscending (c : Chain) :
    ∃ b, chainIsAscending c = some b ∧ (b = true ↔ (c.head? = some 1 ∧ c.Pairwise (· < ·))) :=
  ⟨_, AC.ChainTie.isAscending_tie c, C02_isAscending_iff c⟩

/-- the translated `Chain.Validate` never panics and returns a nil error exactly for the sequences that
    are addition chains in the property's sense -/
theorem C02_src_validate (c : Chain) :
    ∃ e, chainValidate c = some e ∧ (e = none ↔ IsChain c) := by
  obtain ⟨e, h1, h2⟩ := AC.ChainTie.validate_tie c
  exact ⟨e, h1, h2.trans (validate_eq_true_iff c)⟩

/-- the translated `Chain.Produces(t)`: nil error exactly for chains ending at `t` -/
theorem C02_src_produces (c : Chain) (t : Int) :
    ∃ e, chainProduces c t = some e ∧ (e = none ↔ (IsChain c ∧ c.getLast? = some t)) := by
  obtain ⟨e, h1, h2⟩ := AC.ChainTie.produces_tie c t
  exact ⟨e, h1, h2.trans (C02_produces_iff c t)⟩

/-- the translated `Chain.Superset(ts)`: nil error exactly for chains containing every target -/
theorem C02_src_superset (c : Chain) (ts : List Int) :
    ∃ e, chainSuperset c ts = some e ∧ (e = none ↔ (IsChain c ∧ ∀ t ∈ ts, t ∈ c)) := by
  obtain ⟨e, h1, h2⟩ := AC.ChainTie.superset_tie c ts
  exact ⟨e, h1, h2.trans (C02_superset_iff c ts)⟩

/-- the translated `Chain.Program` of a valid chain returns a program (of the model's shape) that
    evaluates back to the chain -/
theorem C02_src_program (c : Chain) (hc : IsChain c) :
    ∃ p, chainProgram c = some (toGs p, none) ∧ evaluate p = c := by
  obtain ⟨p, hp⟩ := (validate_iff c).2 hc
  obtain ⟨r, hr, hm⟩ := AC.ChainTie.program_tie c
  rw [hp] at hm
  exact ⟨p, by rw [hr, hm], program_evaluate c p hp⟩

example : chainOps [1, 2, 4, 3, 5] 4 = some [⟨0, 2⟩, ⟨1, 3⟩] := by decide
example : chainOps [1, 2, 3, 4, 5] 4 = some [⟨0, 3⟩, ⟨1, 2⟩] := by decide
end Src

end AC.Props.C02
