import AC.BuildXProof
/-! # C16 — names in built scripts are unique, legal and faithful

All theorems are about the concrete executable builder model `P.BuildX.buildX` (acc/build.go with the
naming passes `NameByteValues = NameBinaryValues(8, "_%b")`, `NameXRuns = NameBinaryRuns("x%d")` and the
fallback `i%d` of `builder.name`), for every IR program that compiles to a program `p` whose chain
`evaluate p` has pairwise distinct values and that contains no shift by zero (`Decompile` produces no
such shift; `C16_of_program` instantiates the theorems with `Decompile p`).

"The element a statement denotes" is taken from the direct semantics of scripts: `dRun [] [] s`
returns the final name table, which binds every statement's name to the chain index its
expression produced. -/
namespace AC.Props.C16
open P P.Sem P.BuildX P.Naming

/-- No two statements define the same name (the final, unnamed statement included). -/
theorem C16_names_distinct (ir : IR) (p : Prog) (hs : ∀ inst ∈ ir, ∀ x s, inst.op = .shl x s → 1 ≤ s)
    (hc : cAll [] ir = some p) (hnd : (evaluate p).Nodup) (s : Script) (hb : buildX ir = .ok s) :
    (s.map (·.name)).Nodup ∧ (s.dropLast.map (·.name)).Nodup := by
  obtain ⟨env, hB⟩ := built_of hs hc hnd hb
  have h := (dRun_fresh s [] [] _ hB.run).1
  exact ⟨h, List.Nodup.sublist (List.Sublist.map _ (List.dropLast_sublist s)) h⟩

/-- Exactly the final statement is unnamed: the script is non-empty, its last statement has the
    empty name and every other statement has a non-empty name. -/
theorem C16_final_unnamed (ir : IR) (p : Prog) (hs : ∀ inst ∈ ir, ∀ x s, inst.op = .shl x s → 1 ≤ s)
    (hc : cAll [] ir = some p) (hnd : (evaluate p).Nodup) (s : Script) (hb : buildX ir = .ok s) :
    s ≠ [] ∧ (∃ e, s.getLast? = some ⟨"", e⟩) ∧ ∀ st ∈ s.dropLast, st.name ≠ "" := by
  obtain ⟨env, hB⟩ := built_of hs hc hnd hb
  refine ⟨hB.ne, hB.last, ?_⟩
  intro st hst
  obtain ⟨k, hk, _, _⟩ := hB.named st hst
  rw [hk]; exact nameS_ne_empty _ _

/-- Every name is a legal identifier `[a-zA-Z_][a-zA-Z0-9_]*`. -/
theorem C16_names_legal (ir : IR) (p : Prog) (hs : ∀ inst ∈ ir, ∀ x s, inst.op = .shl x s → 1 ≤ s)
    (hc : cAll [] ir = some p) (hnd : (evaluate p).Nodup) (s : Script) (hb : buildX ir = .ok s) :
    ∀ st ∈ s.dropLast, ∃ c cs, st.name.toList = c :: cs ∧ isIdStart c = true ∧ ∀ x ∈ cs, isIdChar x = true := by
  obtain ⟨env, hB⟩ := built_of hs hc hnd hb
  intro st hst
  obtain ⟨k, hk, _, _⟩ := hB.named st hst
  obtain ⟨c, cs, h1, h2, h3⟩ := nameL_legal (evaluate p) k
  exact ⟨c, cs, by rw [hk]; simp [nameS, h1], h2, h3⟩

/-- A generated name describes its value: the script evaluates (`dRun`), every named statement is
    bound to a chain index `k` of the chain of `p`, and if its name is `_b` then element `k` has the
    value with binary digits `b`; if it is `xN` then element `k` is `2^N - 1`; if it is `iN` then
    `k = N`. (`Nat.ofDigitChars base ds 0` reads a digit string.) -/
theorem C16_faithful (ir : IR) (p : Prog) (hs : ∀ inst ∈ ir, ∀ x s, inst.op = .shl x s → 1 ≤ s)
    (hc : cAll [] ir = some p) (hnd : (evaluate p).Nodup) (s : Script) (hb : buildX ir = .ok s) :
    ∃ env, dRun [] [] s = some (p.map norm, env) ∧
      ∀ st ∈ s.dropLast, ∃ k, lookup env st.name = some k ∧ k < (evaluate p).length ∧
        (∀ ds, st.name.toList = '_' :: ds → ((Nat.ofDigitChars 2 ds 0 : Nat) : Int) = at' (evaluate p) k) ∧
        (∀ ds, st.name.toList = 'x' :: ds →
            at' (evaluate p) k = ((2 ^ Nat.ofDigitChars 10 ds 0 - 1 : Nat) : Int)) ∧
        (∀ ds, st.name.toList = 'i' :: ds → Nat.ofDigitChars 10 ds 0 = k) := by
  obtain ⟨env, hB⟩ := built_of hs hc hnd hb
  refine ⟨env, hB.run, ?_⟩
  intro st hst
  obtain ⟨k, hk, hl, hle⟩ := hB.named st hst
  have hlen : k < (evaluate p).length := by rw [evaluate_length]; omega
  obtain ⟨f1, f2, f3⟩ := nameL_faithful (evaluate p) (evaluate_nonneg p) k hlen
  have htl : st.name.toList = nameL (evaluate p) k := by rw [hk]; simp [nameS]
  refine ⟨k, hl, hlen, ?_, ?_, ?_⟩
  · intro ds hd; exact f1 ds (by rw [← htl, hd])
  · intro ds hd; exact f2 ds (by rw [← htl, hd])
  · intro ds hd; exact f3 ds (by rw [← htl, hd])

/-- the four clauses for the script built from any valid chain program (in-range operands, pairwise
    distinct values): `Build (Decompile p)` succeeds and its names are distinct, the last one empty,
    the others legal and faithful -/
theorem C16_of_program (p : Prog) (h : InRange p 0) (hnd : (evaluate p).Nodup) :
    ∃ s, buildX (decompile p) = .ok s ∧ (s.map (·.name)).Nodup ∧
      (∃ e, s.getLast? = some ⟨"", e⟩) ∧
      (∀ st ∈ s.dropLast, ∃ c cs, st.name.toList = c :: cs ∧ isIdStart c = true ∧ ∀ x ∈ cs, isIdChar x = true) ∧
      ∃ env, dRun [] [] s = some (p.map norm, env) ∧
        ∀ st ∈ s.dropLast, ∃ k, lookup env st.name = some k ∧ k < (evaluate p).length ∧
          (∀ ds, st.name.toList = '_' :: ds → ((Nat.ofDigitChars 2 ds 0 : Nat) : Int) = at' (evaluate p) k) ∧
          (∀ ds, st.name.toList = 'x' :: ds →
              at' (evaluate p) k = ((2 ^ Nat.ofDigitChars 10 ds 0 - 1 : Nat) : Int)) ∧
          (∀ ds, st.name.toList = 'i' :: ds → Nat.ofDigitChars 10 ds 0 = k) := by
  have hs := decompileFrom_shl_pos p p.length p 0
  have hc := compile_decompile p h
  obtain ⟨s, _, hb, _⟩ := buildX_built (decompile p) p hs hc hnd
  exact ⟨s, hb, (C16_names_distinct _ p hs hc hnd s hb).1, (C16_final_unnamed _ p hs hc hnd s hb).2.1,
    C16_names_legal _ p hs hc hnd s hb, C16_faithful _ p hs hc hnd s hb⟩

/-- The constants the model hard-wires (8 bits, `_%b`, `x%d`, `i%d`) are the ones in the Go source:
    `AC.Gen.*` is regenerated from acc/pass/naming.go and acc/build.go on every check. -/
theorem C16_naming_constants : AC.Gen.byteBits = 8 ∧ AC.Gen.byteFmt = "_%b" ∧ AC.Gen.xRunFmt = "x%d" ∧
    AC.Gen.indexFmt = "i%d" := naming_constants

/-- non-vacuity: a program whose script has three differently named statements -/
example : (match buildX (decompile [(0,0),(1,0),(2,2),(3,3),(4,4),(5,2)]) with
    | .ok s => s.map (·.name) | .error _ => []) = ["_10", "_11", "_11000", ""] := by decide

end AC.Props.C16
