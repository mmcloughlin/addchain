import AC.GenXProof
import AC.GenFmtProof
import AC.Props.C05
/-! # C06 — generated listings, run literally, compute the script's chain or are refused

Model (`AC.GenX`): `prepareX` = `gen.PrepareData` after translation — the passes of the list
**extracted from `gen.go`** (`AC.Gen.genPasses`) applied in order: `pass.Validate`
(`CheckDanglingInputs`, then `CheckUniqueOutputs`), the allocator (`AC.AllocX`), `pass.Eval`; the renderers of the builtin
templates; `P.Listing.readListing` is the documented reading of the listing format (`tmp` line,
then `add` / `double` / `shift` lines, tab-separated). -/
namespace AC.Props.C06
open P.Alloc AC.AllocX AC.GenX AC.PeakLive P.Listing

/-- in `l`, `pass.Validate` comes before the allocator, and the allocator and `pass.Eval` occur -/
def passesOK (l : List String) : Bool :=
  l.idxOf "pass.Validate" < l.idxOf "cfg.Allocator" && l.contains "cfg.Allocator" &&
    l.contains "pass.Func(pass.Eval)"

/-- `gen.PrepareData` (pass list as extracted from the source) validates before it allocates. Before
    the repair F3 (DESIGN.md §7) the list was `[cfg.Allocator, pass.Func(pass.Eval)]`, for which this is false. -/
theorem C06_passes_ok : passesOK AC.Gen.genPasses = true := by decide

/-- A program that reads a value no instruction outputs (e.g. an intermediate of a shift) is
    refused with an error: never compiled at all, hence never silently miscompiled. -/
theorem C06_dangling_refused (cfg : Cfg String) (ir : List Inst) (occ : List (Nat × String))
    (preOut : List String) (h : danglingFrom [0] ir = false) :
    ∃ e, prepareX cfg ir occ preOut = .error e := by
  rw [prepareX_eq, h]; exact ⟨_, rfl⟩

/-- A program in which an instruction outputs index 0 or an index that is already defined (the
    shape a shift by zero produces) is refused with an error (repair of finding F9, DESIGN.md §7). -/
theorem C06_duplicate_output_refused (cfg : Cfg String) (ir : List Inst) (occ : List (Nat × String))
    (preOut : List String) (h : uniqueFrom [0] ir = false) :
    ∃ e, prepareX cfg ir occ preOut = .error e := by
  rw [prepareX_eq, h]; cases danglingFrom [0] ir <;> exact ⟨_, rfl⟩

/-- `gen.PrepareData` refuses a program without instructions (the allocator's error). -/
theorem C06_empty_refused (cfg : Cfg String) (occ : List (Nat × String)) (preOut : List String) :
    ∃ e, prepareX cfg [] occ preOut = .error e := by
  rw [prepareX_eq]; exact ⟨_, rfl⟩

/-- What acceptance means: both checks of `pass.Validate` passed, the allocator produced the program and the
    temporaries, and chain / ops are the unrolled program and its evaluation. -/
theorem C06_accepted_shape (cfg : Cfg String) (ir : List Inst) (occ : List (Nat × String))
    (preOut : List String) (d : Data) (h : prepareX cfg ir occ preOut = .ok d) :
    validateB ir = true ∧
    (∃ prog temps, allocateN cfg ir occ = .ok (prog, temps) ∧ d.prog = fixOutputs ir preOut prog ∧ d.temps = temps) ∧
    (∃ ops, compileX ir = .ok ops ∧ d.ops = ops ∧ d.chain = evaluateX ops) := by
  rw [prepareX_eq] at h
  split at h
  · cases h
  split at h
  · cases h
  split at h
  · cases h
  split at h
  · cases h
  rename_i hv1 hv2 _ prog temps ha _ ops hc
  cases h
  exact ⟨by simpa [validateB] using And.intro hv1 hv2, ⟨prog, temps, ha, rfl, rfl⟩, ⟨ops, hc, rfl, rfl⟩⟩

/-- **Accepted programs are well-formed**: what the extracted pass list guarantees — no dangling
    input, no repeated output (`pass.Validate`), every output index equal to the position the
    unrolled program reaches (`pass.Eval`) — is exactly the well-formedness C05 needs: outputs ≥ 1
    and strictly increasing, inputs 0 or earlier outputs; and there is at least one instruction. -/
theorem C06_accepted_wf (cfg : Cfg String) (ir : List Inst) (occ : List (Nat × String))
    (preOut : List String) (d : Data) (h : prepareX cfg ir occ preOut = .ok d) :
    wfB ir = true ∧ ir ≠ [] := by
  obtain ⟨hv, ⟨prog, temps, ha, _, _⟩, ⟨ops, hc, _, _⟩⟩ := C06_accepted_shape cfg ir occ preOut d h
  simp only [validateB, Bool.and_eq_true] at hv
  constructor
  · unfold compileX at hc
    cases hcf : compileFrom #[] ir with
    | error e => rw [hcf] at hc; cases hc
    | ok q =>
      exact compile_wf ir #[] [0] [] 0 q (by intro x; simp) (by simp) hv.1 hv.2 hcf
  · exact (allocateX_ok (allocateN_ok ha)).1

/-- **The listing reads back**: the text the `listing` template produces for declared temporaries
    `tmps` and instruction lines `ls`, read as documented, is exactly `(tmps, ls)` — for names
    without tab / newline and non-empty temporaries (`x`, `z`, `tN` are such). -/
theorem C06_listing_readback (tmps : List (List Char)) (ls : List Line)
    (ht : ∀ t ∈ tmps, NameOK t ∧ t ≠ []) (hl : ∀ l ∈ ls, LineOK l) :
    readListing (renderListingX tmps ls) = some (tmps, ls) := readListingX_render tmps ls ht hl

/-- **The listing, run literally, computes the chain** (composition with C05): for a well-formed
    non-empty program and distinct listing-safe names, the allocator succeeds; the listing text of
    its result reads back to the declared temporaries and the instruction lines; running those
    lines on the register machine from `{input ↦ v}` succeeds in both alias modes and leaves
    `chainEnd ir * v` in the output register; every register the lines mention is the input, the
    output or a declared temporary. -/
theorem C06_listing_correct (cfg : Cfg String) (ir : List Inst)
    (hwf : wfB ir = true) (hne : ir ≠ []) (hd : NamesDistinct cfg) (hok : CfgOK cfg)
    (alias : Bool) (v : Int) :
    ∃ prog temps, allocateX cfg ir = .ok (prog, temps) ∧
      ∃ lines, readListing (renderListingX (temps.map String.toList) (prog.map toLine))
          = some (temps.map String.toList, lines) ∧
        (∃ st, execX (cfgL cfg) alias (lines.map ofLine) (initX (cfgL cfg) v) = .ok st ∧
          getX st (cellX (cfgL cfg) alias (cfgL cfg).output) = some (chainEnd ir * v)) ∧
        (∀ n ∈ usedNames (lines.map ofLine),
          n = (cfgL cfg).input ∨ n = (cfgL cfg).output ∨ n ∈ temps.map String.toList) := by
  obtain ⟨progL, tempsL, hL, hrun, _, hnamed⟩ :=
    AC.Props.C05.C05_correct (cfgL cfg) ir hwf hne (namesDistinct_cfgL cfg hd) alias v
  obtain ⟨_, rfl, rfl⟩ := allocateX_ok hL
  refine ⟨_, _, allocateX_eq cfg ir hne, (ir.map (nameInst (nameX cfg ir))).map toLine, ?_, ?_, ?_⟩
  · apply readListingX_render
    · intro t htm
      simp only [tempsOf, List.map_map, List.mem_map, List.mem_range] at htm
      obtain ⟨k, _, rfl⟩ := htm
      exact hok.temp k
    · intro l hlm
      simp only [List.map_map, List.mem_map] at hlm
      obtain ⟨inst, _, rfl⟩ := hlm
      exact lineOK_toLine _ (nameX_ok cfg hok ir) inst
  · rw [map_ofLine_toLine]; exact hrun
  · rw [map_ofLine_toLine, tempsOf_cfgL]; exact hnamed

/-- For an accepted, well-formed program the model's listing is the rendering of the allocator's
    result (the output-operand quirk `fixOutputs` is the identity there). -/
theorem C06_prepare_listing (cfg : Cfg String) (ir : List Inst) (occ : List (Nat × String))
    (preOut : List String) (d : Data) (h : prepareX cfg ir occ preOut = .ok d)
    (hwf : wfB ir = true) (hlen : preOut.length = ir.length) :
    ∃ prog temps, allocateX cfg ir = .ok (prog, temps) ∧
      listingOf d = String.ofList (renderListingX (temps.map String.toList) (prog.map toLine)) := by
  obtain ⟨_, ⟨prog, temps, ha, hp, ht⟩, _⟩ := C06_accepted_shape cfg ir occ preOut d h
  have hx := allocateN_ok ha
  refine ⟨prog, temps, hx, ?_⟩
  obtain ⟨_, rfl, _⟩ := allocateX_ok hx
  unfold listingOf
  rw [hp, ht, fixOutputs_wf ir preOut _ hwf hlen (List.length_map _)]

/-- **End to end for the `listing` template**: whenever the model of `gen.PrepareData` accepts a
    program (with distinct, listing-safe names), the listing text it produces reads back, as
    documented, to the declared temporaries and instruction lines; those lines, run literally on
    the register machine from `{input ↦ v}`, succeed in both alias modes and leave `chainEnd ir * v`
    in the output register, mentioning only the input, the output and declared temporaries. -/
theorem C06_accepted_listing_correct (cfg : Cfg String) (ir : List Inst) (occ : List (Nat × String))
    (preOut : List String) (d : Data) (h : prepareX cfg ir occ preOut = .ok d)
    (hlen : preOut.length = ir.length) (hd : NamesDistinct cfg) (hok : CfgOK cfg)
    (alias : Bool) (v : Int) :
    ∃ tmps lines, readListing (listingOf d).toList = some (tmps, lines) ∧
      tmps = d.temps.map String.toList ∧
      (∃ st, execX (cfgL cfg) alias (lines.map ofLine) (initX (cfgL cfg) v) = .ok st ∧
        getX st (cellX (cfgL cfg) alias (cfgL cfg).output) = some (chainEnd ir * v)) ∧
      (∀ n ∈ usedNames (lines.map ofLine), n = (cfgL cfg).input ∨ n = (cfgL cfg).output ∨ n ∈ tmps) := by
  obtain ⟨hwf, hne⟩ := C06_accepted_wf cfg ir occ preOut d h
  obtain ⟨prog, temps, hx, hl⟩ := C06_prepare_listing cfg ir occ preOut d h hwf hlen
  obtain ⟨prog', temps', hx', lines, hr, hrun, hnm⟩ := C06_listing_correct cfg ir hwf hne hd hok alias v
  cases hx.symm.trans hx'
  obtain ⟨_, ⟨prog2, temps2, ha, _, ht2⟩, _⟩ := C06_accepted_shape cfg ir occ preOut d h
  cases hx.symm.trans (allocateN_ok ha)
  refine ⟨temps.map String.toList, lines, ?_, by rw [ht2], hrun, hnm⟩
  rw [hl, String.toList_ofList]
  exact hr

/-- **The `chain` output lists exactly the evaluated chain**: read line by line in the documented
    format `%3d: %#x` it gives positions 1, 2, … paired with the chain values. -/
theorem C06_chain_readback (c : List Nat) : readChain (renderChain c) = some (enumChain 0 c) :=
  readChain_render c 0

/-- **The `ops` output lists exactly the operations**: read in the documented format
    `[%3d] %4d+%-4d %#x` it gives, for operation `n`, its operands `I`, `J` and chain element `n+1`. -/
theorem C06_ops_readback (ops : List (Nat × Nat)) (c : List Nat) :
    readOps (renderOps ops c) = some (enumOps 0 ops c.tail) := readOps_render ops c.tail 0

/-- **The `script` output re-loads to the same chain**, relative to the printer round trip of C07:
    the template prints the parsed script `t` (`format .Script` = `printer.String`); loading is
    `parse` followed by a function `eval` of the tree (translate + evaluate). If parsing the
    printed form of a parsed tree gives the tree back (`AC.Props.C07.C07_fmt_preserves_tree`), the
    output loads to the chain of the script. -/
theorem C06_script_reloads {Tree : Type} (parse : List Char → Option Tree) (print : Tree → List Char)
    (eval : Tree → Option (List Nat))
    (hC07 : ∀ s t, parse s = some t → parse (print t) = some t)
    (s : List Char) (t : Tree) (c : List Nat) (hp : parse s = some t) (he : eval t = some c) :
    (parse (print t)).bind eval = some c := by
  rw [hC07 s t hp]; exact he

/-- the pass list before the repair F3 does not satisfy `passesOK` -/
example : passesOK ["cfg.Allocator", "pass.Func(pass.Eval)"] = false := by decide

/-- the shift-by-zero shape `1:D(0); 1:S(1,0)` is refused by the unique-output check,
    `3:S(0,3); 4:A(2,3)` (reading index 2, which nobody outputs) by the dangling check -/
example : uniqueFrom [0] [⟨1, .dbl 0⟩, ⟨1, .shl 1 0⟩] = false ∧ danglingFrom [0] [⟨3, .shl 0 3⟩, ⟨4, .add 2 3⟩] = false := by
  decide

/-- non-vacuity: a listing with one temporary -/
example : readListing (renderListingX ["t0".toList]
    [⟨"t0".toList, .dbl "x".toList⟩, ⟨"z".toList, .add "x".toList "t0".toList⟩]) =
    some (["t0".toList], [⟨"t0".toList, .dbl "x".toList⟩, ⟨"z".toList, .add "x".toList "t0".toList⟩]) := by
  decide

end AC.Props.C06
