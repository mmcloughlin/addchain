import AC.MetavarsXFile
/-! # C20 — release metadata round trip (internal/metavars)

Model (`AC.MetavarsX`, over bytes): `quote` = `strconv.Quote` (`%q`) with the `IsPrint` table as an oracle,
`unquote` = `strconv.Unquote` on double-quoted literals, `writeModel` = the bytes `metavars.Write` produces
*after* `format.Source`, `readModel` = `metavars.Read` on that shape, `get/addS/setS` = `File.Get/Add/Set`.

What is a theorem here: quoting is undone by unquoting for **every** byte string and every `IsPrint`; the model
reader gives back every well-formed file from the model writer; the ordered-map laws. What is *not* a theorem:
that `go/format` and `go/parser` behave as `writeModel`/`readModel` (tied by exact-output correspondence on every
generated case) and that the written text is a gofmt fixed point (observed on every case) — see
`C20_gofmt_fixed_point_Statement`. -/
namespace AC.Props.C20
open P.MetaX

/-- `Unquote(Quote(s)) = s` for all byte strings — valid UTF-8 or not, including quotes, backslashes, newlines,
    NUL, surrogate and overlong encodings — and for any printable-rune table. -/
theorem C20_unquote_quote (isPrint : Nat → Bool) (bytes : List Nat) (h : ∀ b ∈ bytes, b < 256) :
    unquote (quote isPrint bytes) = some bytes := unquote_quote isPrint bytes h

/-- the unquoting loop consumes exactly the quoted literal: whatever text follows the closing quote is left over
    (this is what makes one spec per line readable whatever the value contains) -/
theorem C20_unquote_stops_at_closing_quote (isPrint : Nat → Bool) (bytes t : List Nat) (h : ∀ b ∈ bytes, b < 256) :
    ∃ body, quote isPrint bytes = 0x22 :: (body ++ [0x22]) ∧
      unqR (body.length + 1) (body ++ 0x22 :: t) = some (bytes, t) :=
  ⟨bodyF isPrint bytes.length bytes, rfl,
    unqR_bodyF isPrint bytes.length bytes (Nat.le_refl _) h _ t (Nat.lt_succ_self _)⟩

/-- reading back what was written gives the same package name and the same properties (names, docs, values) in
    the same order, for every file in the property's domain: package and property names are ASCII identifiers
    other than keywords, docs are printable ASCII without trailing blank and not a `+build` line (empty = none),
    values are arbitrary byte strings. -/
theorem C20_read_write (isPrint : Nat → Bool) (f : BFile) (h : WFFile f) :
    readModel (writeModel isPrint f) = some f :=
  readModel_writeModel isPrint f (wfFile_shape f h)

/-- the same under the weaker shape conditions the model reader actually needs: names are non-empty runs of
    identifier bytes (bytes ≥ 0x80 allowed), docs contain no newline -/
theorem C20_read_write_shape (isPrint : Nat → Bool) (f : BFile) (h : ShapeFile f) :
    readModel (writeModel isPrint f) = some f := readModel_writeModel isPrint f h

/-- alignment sections partition the properties in order, and every name fits its section's column
    (so the padding before `=` is `width + 1 - len ≥ 1` blanks) -/
theorem C20_sections (l : List BProp) :
    (sections l).flatten = l ∧ (annot l).map (·.2) = l ∧ ∀ wp ∈ annot l, runeCount wp.2.name ≤ wp.1 :=
  ⟨sections_flatten l, annot_snd l, annot_width l⟩

/-- adding a new name succeeds, appends at the end, is then found, and disturbs no other lookup -/
theorem C20_get_add (f : List BProp) (p : BProp) (h : get f p.name = none) :
    addS f p = (true, f ++ [p]) ∧ get (addS f p).2 p.name = some p.value ∧
      ∀ n, n ≠ p.name → get (addS f p).2 n = get f n := by
  have e : addS f p = (true, f ++ [p]) := by unfold addS; rw [add_new f p h]
  rw [e]
  exact ⟨rfl, get_add_same f p h, fun n hn => get_add_other f p n hn⟩

/-- adding an existing name is an error and changes nothing -/
theorem C20_add_existing_err_unchanged (f : List BProp) (p : BProp) (h : get f p.name ≠ none) :
    addS f p = (false, f) := by
  obtain ⟨e, he⟩ := add_existing f p h
  unfold addS; rw [he]

/-- setting an unknown name is an error and changes nothing -/
theorem C20_set_unknown_err_unchanged (f : List BProp) (n v : List Nat) (h : get f n = none) :
    setS f n v = (false, f) := by
  unfold setS; rw [set_unknown f n v h]

/-- setting a known name succeeds; it is then found with the new value, other lookups are unchanged -/
theorem C20_set_get (f : List BProp) (n v : List Nat) (h : get f n ≠ none) :
    (setS f n v).1 = true ∧ get (setS f n v).2 n = some v ∧ ∀ m, m ≠ n → get (setS f n v).2 m = get f m := by
  obtain ⟨f', hf⟩ := set_known f n v h
  have := set_get f n v f' hf
  unfold setS; rw [hf]
  exact ⟨rfl, this.1, this.2.1⟩

/-- order preservation: `Set` keeps names and docs position by position; `Add` only ever appends -/
theorem C20_order_preserved (f : List BProp) :
    (∀ n v, (setS f n v).2.map (·.name) = f.map (·.name) ∧ (setS f n v).2.map (·.doc) = f.map (·.doc)) ∧
    (∀ p, (addS f p).2 = f ∨ (addS f p).2 = f ++ [p]) := by
  constructor
  · intro n v
    unfold setS
    cases hs : set f n v with
    | none => exact ⟨rfl, rfl⟩
    | some f' => have := set_get f n v f' hs; exact ⟨this.2.2.1, this.2.2.2⟩
  · intro p
    unfold addS add
    cases f.find? (·.name == p.name) with
    | none => exact Or.inr rfl
    | some _ => exact Or.inl rfl

/-- OPEN (outside the model): the bytes written by the real `Write` are a fixed point of `format.Source`, and the
    real `go/format`, `go/parser` agree with `writeModel` / `readModel`. Here `fmtSource` stands for
    `format.Source` and `implWrite` for `metavars.Write`; nothing in Lean constrains them, so this is a
    statement, not a theorem. The harness observes both facts on every generated case. -/
def C20_gofmt_fixed_point_Statement (fmtSource : List Nat → Option (List Nat))
    (implWrite : BFile → Option (List Nat)) (isPrint : Nat → Bool) : Prop :=
  ∀ f, WFFile f → implWrite f = some (writeModel isPrint f) ∧
    fmtSource (writeModel isPrint f) = some (writeModel isPrint f)

/-- non-vacuity: a well-formed file with a doc-induced alignment section, an invalid UTF-8 value and an escape:
    it is well-formed, `writeModel` gives the bytes shown, and `readModel` of them gives the file back -/
example :
    let f : BFile := { pkg := bytesOf "meta", props :=
      [⟨bytesOf "a", [], [0x78, 0x0A, 0xFF]⟩, ⟨bytesOf "bbb", [], bytesOf "\"\\"⟩, ⟨bytesOf "cc", bytesOf "doc c", [0xC3, 0xA9]⟩] }
    wfFile f = true ∧
    writeModel (fun r => r == 0xE9) f =
      bytesOf "package meta\n\nvar (\n\ta   = \"x\\n\\xff\"\n\tbbb = \"\\\"\\\\\"\n\t// doc c\n\tcc = \"" ++ [0xC3, 0xA9] ++ bytesOf "\"\n)\n" ∧
    readModel (writeModel (fun r => r == 0xE9) f) = some f := by
  decide +kernel

end AC.Props.C20
