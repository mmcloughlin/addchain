import AC.CalcProof
import AC.Gen.CalcOps
/-! # C13 — target expressions evaluate by the standard rules of integer arithmetic

Model (`AC/CalcModel.lean`, checked against `internal/calc/calc.go` by the correspondence run):
`AC.Calc.eval : List Char → Outcome`, `Outcome = ok v | err | divzero` (`divzero` is the error
"division by zero" that `yard.apply` returns when a `divisor` operator meets a zero second operand,
raised when the division is applied — Lean's `x / 0 = 0` is never used; `err` is any other error);
`yardE` is the same two-stack machine on a token list.

Spec: `convO n0 toks : Option Int` (`AC/CalcProof.lean`) — the conventional value of `n0 o₁ n₁ o₂ n₂ …`,
written structurally (it is `conv` of `AC/CalcYard.lean` at `Option Int`): split at the non-`^` operators (every factor is a right-nested tower),
split the factors at `+ -` (every term is a left fold of `* /`), left-fold the terms; `/` is `Int.ediv`,
a non-positive exponent gives 1, and the result is `none` iff one of the divisions so performed has
divisor 0.  `render pad n0 toks` is any rendering: each literal decimal (no superfluous leading zero),
`0x…` or `0b…`, with optional minus (`Lit`), `pad i` blanks before the i-th token and at the end. -/
namespace AC.Props.C13
open AC.Calc
open P.YP (Bop stop opOfChar charOfOp sp)

/-- the pop rule of `yard.operator`, applied to two entries (char, precedence, rightassociative, apply,
    divisor) of the table extracted from calc.go: stop popping at `t` for incoming `o` iff
    `t.precedence < o.precedence || (t.precedence == o.precedence && o.associativity != leftassociative)` -/
def genericStop (t o : Char × Nat × Bool × String × Bool) : Bool := t.2.1 < o.2.1 || (t.2.1 == o.2.1 && o.2.2.1)

/-- the `big.Int` method the model applies for each operator -/
def tagOf : Bop → String | .pow => "Exp" | .mul => "Mul" | .div => "Div" | .add => "Add" | .sub => "Sub"

/-- the extracted table has exactly the five operators of the model, each applies the `big.Int` method
    the model applies and is marked `divisor` exactly when the model checks the divisor, and for every pair of entries the pop rule computed from the table's precedences
    and associativities is the pop decision `P.YP.stop` hard-wired in the proved yard -/
def tableOK (tbl : List (Char × Nat × Bool × String × Bool)) : Bool :=
  tbl.length == 5 &&
  (tbl.all fun t => match opOfChar t.1 with
     | none => false
     | some bt => t.2.2.2.1 == tagOf bt && t.2.2.2.2 == isDivisor bt &&
        tbl.all fun o => match opOfChar o.1 with
          | none => false
          | some bo => genericStop t o == stop bt bo)
  && [Bop.pow, .mul, .div, .add, .sub].all (fun b => tbl.any fun t => t.1 == charOfOp b)

/-- **the operator table of calc.go (regenerated on every check) induces the proved pop rule.**
    A changed precedence, associativity, operator character, apply function or divisor mark breaks
    this proof. -/
theorem C13_popTable_ok : tableOK AC.Gen.calcOps = true := by decide

/-- **the yard computes the conventional value**: on every token list the two-stack machine of calc.go
    returns `ok v` when the conventional evaluation yields `v`, and the division-by-zero error exactly
    when the conventional evaluation divides by zero. It never returns another error. -/
theorem C13_yard_eq_conv (n0 : Int) (toks : List (Bop × Int)) :
    yardE n0 toks = match convO n0 toks with | some v => .ok v | none => Outcome.divzero := by
  rw [yardE_eq_conv]; cases convO n0 toks <;> rfl

/-- the same for an arbitrary value domain and interpretation of the operators: the agreement of the
    yard with the conventional grouping is purely structural (it uses only the pop rule) -/
theorem C13_yard_eq_conv_generic {V : Type} (ap : Bop → V → V → V) (n0 : V) (toks : List (Bop × V)) :
    yard ap n0 toks = some (conv ap n0 toks) := yard_eq_conv ap n0 toks

/-- **character level**: `Eval` applied to any rendering of a token list — canonical decimal, `0x` and
    `0b` literals with optional minus, any blanks — returns the conventional value of the literal values
    when no division by zero occurs (and the division-by-zero error otherwise) -/
theorem C13_eval_render (pad : Nat → Nat) (n0 : Lit) (toks : List (Bop × Lit)) :
    eval (render pad n0 toks)
      = match convO n0.val (tokVals toks) with | some v => .ok v | none => Outcome.divzero := by
  rw [eval_render]; cases convO n0.val (tokVals toks) <;> rfl

/-- the property's first sentence, literally: no division by zero ⇒ the value by the usual rules -/
theorem C13_eval_value (pad : Nat → Nat) (n0 : Lit) (toks : List (Bop × Lit)) (v : Int)
    (h : convO n0.val (tokVals toks) = some v) : eval (render pad n0 toks) = .ok v := by
  rw [C13_eval_render, h]

/-- the scanner reads back every literal of the property's grammar, whatever non-hex-digit follows -/
theorem C13_number_ok (l : Lit) (r : List Char) (hr : Sep r) : number (l.text ++ r) = some (l.val, r) :=
  number_ok l r hr

/-- the Go `error` outcomes: "division by zero" or any other error -/
def IsError (o : Outcome) : Prop := o = .err ∨ o = Outcome.divzero

theorem isError_of_not_ok {o : Outcome} (h : ∀ v, o ≠ .ok v) : IsError o := by
  cases o with
  | ok v => exact absurd rfl (h v)
  | err => exact Or.inl rfl
  | halt e => cases e; exact Or.inr rfl

/-- **malformed ⇒ error.** A value is returned only for `blanks lit (blanks op blanks lit)* blanks`
    (`Shape true`), where `lit` is whatever the scanner accepts: on every other input — missing operand,
    missing operator, bad literal, stray character — `Eval` returns an error -/
theorem C13_malformed (s : List Char) (h : ¬ Shape true s) : IsError (eval s) :=
  isError_of_not_ok fun v hv => h (eval_ok_shape s v hv)

/-- empty input or only blanks: error -/
theorem C13_malformed_empty (k : Nat) : eval (sp k) = .err := by
  have := evalWith_blanks applyE k []
  rwa [List.append_nil] at this

/-- a non-blank character at the first operand position at which no literal starts (a leading
    operator other than minus, a stray character, a bad literal): error -/
theorem C13_malformed_leading (k : Nat) (c : Char) (r : List Char) (hc : c ≠ ' ')
    (hn : number (c :: r) = none) : eval (sp k ++ c :: r) = .err := by
  unfold eval
  rw [evalWith_blanks]
  simp [evalWith, evalLoop, hc, hn]

/-- a trailing operator after a well-formed expression: error -/
theorem C13_malformed_trailing_operator (pad : Nat → Nat) (n0 : Lit) (toks : List (Bop × Lit)) (o : Bop)
    (k : Nat) : IsError (eval (render pad n0 toks ++ charOfOp o :: sp k)) :=
  C13_malformed _ fun h => not_shape_true_blanks k (shape_render_op pad n0 toks o _ h)

/-- an operator that is not followed by a literal (double operator, bad literal, stray character at an
    operand position): error -/
theorem C13_malformed_missing_operand (pad : Nat → Nat) (n0 : Lit) (toks : List (Bop × Lit)) (o : Bop)
    (k : Nat) (c : Char) (r : List Char) (hc : c ≠ ' ') (hn : number (c :: r) = none) :
    IsError (eval (render pad n0 toks ++ charOfOp o :: (sp k ++ c :: r))) :=
  C13_malformed _ fun h => not_shape_operand hc hn k (shape_render_op pad n0 toks o _ h)

/-- a stray character where an operator is expected: error -/
theorem C13_malformed_stray (pad : Nat → Nat) (n0 : Lit) (toks : List (Bop × Lit)) (c : Char) (r : List Char)
    (hc : c ≠ ' ') (ho : opOfChar c = none) (hx : isHex c = false ∧ c ≠ 'x') :
    IsError (eval (render pad n0 toks ++ c :: r)) :=
  C13_malformed _ fun h =>
    not_shape_operator hc ho 0 (shape_render pad n0 toks _ (sep_cons hx r) h)

/-- two operands in a row (the second one without a minus sign, which would be read as the
    subtraction operator): error -/
theorem C13_malformed_two_operands (pad : Nat → Nat) (n0 : Lit) (toks : List (Bop × Lit)) (l : Lit)
    (hl : l.neg = false) (r : List Char) : IsError (eval (render pad n0 toks ++ ' ' :: (l.text ++ r))) := by
  refine C13_malformed _ fun h => ?_
  have h2 := (shape_render pad n0 toks _ (sep_cons (sep_char_blank_or_op (Or.inl rfl)) _) h).unblank
  obtain ⟨d, t, hb, hd⟩ := l.body_head
  have ht : l.text = d :: t := by unfold Lit.text; rw [hl]; exact hb
  rw [ht] at h2
  -- the literal starts with a digit, which is neither a blank nor an operator
  have hop : opOfChar d = none := by
    cases ho : opOfChar d with
    | none => rfl
    | some o => rw [P.YP.opOfChar_eq_some ho, P.YP.charOfOp_not_digit] at hd; cases hd
  exact not_shape_operator (P.YP.ne_space_of_isDigit hd) hop 0 h2

/-- no literal starts at a character that is neither `-` nor a decimal digit -/
theorem C13_number_none_nondigit (c : Char) (r : List Char) (hm : c ≠ '-') (hd : c.isDigit = false) :
    number (c :: r) = none := by
  rw [number_of_not_minus _ (fun t e => hm (by cases e; rfl))]
  exact numberBody_none false _ fun d t e => (List.cons.inj e).1 ▸ hd

/-- a minus sign that is not followed by a digit (`-`, `- 1`, `--1`) is not a literal -/
theorem C13_number_none_minus (r : List Char) (hr : ∀ d t, r = d :: t → d.isDigit = false) :
    number ('-' :: r) = none :=
  numberBody_none true r hr

/-- `0x` / `0b` without a digit of the class (this includes upper-case hex digits) is not a literal -/
theorem C13_number_none_prefix (neg : Bool) (r : List Char) :
    (r.takeWhile isHex = [] → numberBody neg ('0' :: 'x' :: r) = none) ∧
    (r.takeWhile isBin = [] → numberBody neg ('0' :: 'b' :: r) = none) := by
  constructor
  · intro h; rw [numberBody_hex, prefixed, h]; rfl
  · intro h; rw [numberBody_bin, prefixed, h]; rfl

/-- the spec on concrete inputs: precedence, associativity, Euclidean division, negative exponent,
    division by zero -/
example : convO 1 [(.add, 2), (.mul, 3), (.pow, 2), (.pow, 2), (.sub, 4), (.div, 3)] = some 162
    ∧ convO 2 [(.pow, 3), (.pow, 2)] = some 512 ∧ convO 2 [(.pow, 3), (.mul, 2)] = some 16
    ∧ convO 2 [(.mul, 3), (.pow, 2)] = some 18 ∧ convO 100 [(.div, 7), (.div, 2)] = some 7
    ∧ convO (-7) [(.div, 2)] = some (-4) ∧ convO 7 [(.div, -2)] = some (-3)
    ∧ convO 2 [(.pow, -1)] = some 1 ∧ convO 1 [(.add, 1), (.div, 0)] = none := by decide

/-- the model on concrete inputs, including the base-0 quirks outside the property (`017` is octal) -/
example : eval "1 + 2*0x3^0b10^2 - 4/3".toList = .ok 162 ∧ eval "017".toList = .ok 15
    ∧ eval "08".toList = .err ∧ eval "1/0".toList = Outcome.divzero ∧ eval "1 2".toList = .err
    ∧ eval "-2^2".toList = .ok 4 := by decide

/-- a quirk of calc.go kept by the model: `yard.result` applies a trailing operator to the two operands
    below it before the operand count is checked, so the malformed input `1+0/` — which contains no
    complete division — is reported as "division by zero" rather than "too few operands" (before the
    fix F4 this was a panic). It is an error either way, which is all the property asks; this is why
    the malformed theorems say `IsError` and not `= .err`. -/
theorem C13_trailing_operator_divzero : eval "1+0/".toList = Outcome.divzero := by decide

end AC.Props.C13
