import AC.DictAlg
import AC.Assemble
import AC.Props.C08
import AC.Props.C09
import AC.SeqGood
import AC.OptProof
import AC.Gen.Ensemble
import AC.C01Total
import AC.DictSumTie
import AC.BinaryTie
import AC.DecompTie
/-! # C01 — every search algorithm returns a genuine addition chain ending at the target

Model: `P.DA.execute` (`exec.Execute` over `binary.RightToLeft`, `alg.AsChainAlgorithm`,
`dict.Algorithm`, `dict.RunsAlgorithm`, `opt.Algorithm`). The order produced by the unstable
`sort.Slice` inside `primitive` is an oracle argument; theorems quantify over every admissible one. -/
namespace AC.Props.C01
open P P.DA

/-- **totality ("reports no error")**: for every well-formed configuration (window sizes ≥ 1,
    heuristic compositions containing a total heuristic, any nesting of the optimisation wrapper)
    and every target `n ≥ 1` whose bit length fits a machine word (the documented input-size range;
    only the runs algorithm needs it), for all sufficiently large fuel of the continued-fraction
    recursion and EVERY sort oracle: `Execute` returns a valid addition chain ending at `n` with one
    op per non-initial element that re-evaluates to it — or the oracle was not an admissible result
    of sorting the rebuilt sum by exponent (which the driver checks on the real order) -/
theorem C01_total (a : ChainAlg) (hw : a.wf = true) (n : Nat) (hn : 1 ≤ n) (hsz : Nat.log2 n + 1 < 2 ^ 64) :
    ∃ F, ∀ f, F ≤ f → ∀ o,
      (∃ c p, executeWith (SeqAlg.findF f) a n o = .ok (c, p) ∧ IsChain c ∧ c.getLast? = some (n : Int) ∧
        p.length + 1 = c.length ∧ evaluate p = c) ∨
      executeWith (SeqAlg.findF f) a n o = .error .oracle :=
  executeWith_total a hw n hn hsz

/-- the driver's executable model (fuel search for continued fractions) agrees with the
    fuel-indexed model of `C01_total`: a result it returns is the result for every large fuel -/
theorem C01_driver_agrees (a : ChainAlg) (n : Nat) (o : List TermP) (x : List Int × List Op)
    (h : execute a n o = .ok x) : ∃ f0, ∀ f, f0 ≤ f → executeWith (SeqAlg.findF f) a n o = .ok x :=
  executeWith_of_execute a n o x h

/-- every member of the default ensemble (list regenerated from `ensemble.Ensemble()` of the working
    tree on every run) is a well-formed configuration: window sizes at least 1 and every heuristic
    composition contains a total heuristic -/
theorem C01_ensemble_wf : ∀ a ∈ AC.Gen.ensembleConfigs, a.wf = true := by
  have h : AC.Gen.ensembleConfigs.all (fun a => a.wf) = true := by decide +kernel
  exact fun a ha => (List.all_eq_true.1 h) a ha

/-- every member of the default ensemble satisfies the hypotheses of `C01_total` -/
theorem C01_ensemble_total (n : Nat) (hn : 1 ≤ n) (hsz : Nat.log2 n + 1 < 2 ^ 64) :
    ∀ a ∈ AC.Gen.ensembleConfigs, ∃ F, ∀ f, F ≤ f → ∀ o,
      (∃ c p, executeWith (SeqAlg.findF f) a n o = .ok (c, p) ∧ IsChain c ∧ c.getLast? = some (n : Int) ∧
        p.length + 1 = c.length ∧ evaluate p = c) ∨
      executeWith (SeqAlg.findF f) a n o = .error .oracle :=
  fun a ha => executeWith_total a (C01_ensemble_wf a ha) n hn hsz

/-- `primitive` over the executable list model: succeeds on every valid chain containing the
    dictionary terms, keeps the sum's value, and yields a sum-closed pruned sub-chain containing 1 -/
theorem C01_primitivePre_ok (sum : List TermP) (c : List Nat) (hc : IsChain (c.map Int.ofNat))
    (hlen : 2 ≤ sum.length) (hmem : ∀ t ∈ sum, t.1 ∈ c) :
    ∃ pre pruned, primitivePre sum c = some (pre, pruned) ∧ valueP pre = valueP sum ∧
      (∀ t ∈ pre, t.1 ∈ pruned) ∧ 1 ∈ pruned ∧ (∀ x ∈ pruned, x ∈ c) ∧
      (∀ x ∈ pruned, x = 1 ∨ ∃ a ∈ pruned, ∃ b ∈ pruned, a + b = x) :=
  primitivePre_ok sum c hc hlen hmem

/-- a success of `execute` is a success of `find`, of `Chain.Program` and of the comparison of the end -/
theorem execute_ok (a : ChainAlg) (n : Nat) (o : List TermP) (c : List Int) (p : List Op)
    (h : execute a n o = .ok (c, p)) :
    a.find n o = .ok c ∧ program c = .ok p ∧ c.getLast? = some (n : Int) := by
  unfold execute at h
  split at h
  · cases h
  · rename_i c' hc
    split at h
    · cases h
    · rename_i p' hp
      split at h
      · rename_i hl
        cases h
        exact ⟨hc, hp, by simpa using hl⟩
      · cases h

/-- whatever `execute` returns is a valid chain ending at the target, with one op per non-initial
    element, re-evaluating to the chain — for EVERY configuration, target and oracle
    (`Execute` validates through `Chain.Program` and compares the end) -/
theorem C01_execute_sound (a : ChainAlg) (n : Nat) (o : List TermP) (c : List Int) (p : List Op)
    (h : execute a n o = .ok (c, p)) :
    IsChain c ∧ c.getLast? = some (n : Int) ∧ p.length + 1 = c.length ∧ evaluate p = c := by
  obtain ⟨_, hp, hl⟩ := execute_ok a n o c p h
  exact ⟨(validate_iff c).1 ⟨p, hp⟩, hl, (program_get c p hp).1, program_evaluate c p hp⟩

/-- binary right-to-left: a valid chain ending at `n`, for every `n ≥ 1` -/
theorem C01_binary (n : Nat) (hn : 1 ≤ n) : IsChain (rtl n) ∧ (rtl n).getLast? = some (n : Int) :=
  binary_ok n hn

/-- sequence algorithm used as a chain algorithm: total configurations succeed with a valid chain
    containing the target (that the chain also ends there is `P.heuristic_asChain`) -/
theorem C01_asChain_heuristic (h : Heur) (ht : h.isTotal = true) (n : Nat) (hn : 1 ≤ n) :
    ∃ c, (SeqAlg.heuristic h).find [(n : Int)] = some c ∧ IsChain c ∧ (n : Int) ∈ c := by
  obtain ⟨c, h1, h2, h3⟩ := AC.Props.C08.C08_heuristic_total h ht [(n : Int)]
    (fun x hx => List.mem_singleton.1 hx ▸ Int.ofNat_le.2 hn)
  exact ⟨c, h1, h2, h3 _ (List.mem_singleton_self _)⟩

/-- `primitive`: the rebuilt sum has the same value, every dictionary entry of it is in the pruned
    chain, the pruned chain contains 1 and is closed under its own operations (function-vector model;
    the pigeonhole shows the primitive set is non-empty) -/
theorem C01_primitive_ok (cv : Nat → Nat) (p terms : List (Nat × Nat)) (he : P.Prim.EvalsTo cv p 0)
    (h0 : cv 0 = 1) (ht : 2 ≤ terms.length) (hti : ∀ t ∈ terms, t.1 ≤ p.length) :
    let n := p.length + 1
    let fl := P.Prim.flag p terms
    let out := P.Prim.outTerms n cv (P.Prim.vTot (P.Prim.vcL fl p) terms)
    let pruned := ((List.range n).filter fl).map cv
    P.Prim.valueT out = (terms.map (fun t => cv t.1 * 2 ^ t.2)).sum ∧
    (∀ t ∈ out, t.1 ∈ pruned) ∧
    (1 ∈ pruned) ∧ (∀ x ∈ pruned, x = 1 ∨ ∃ a ∈ pruned, ∃ b ∈ pruned, a + b = x) :=
  P.Prim.primitive_ok cv p terms he h0 ht hti

/-- `dictsumchain`: every emitted element is the double of its predecessor or predecessor + a
    dictionary entry, and the last one is `cur·2^E + Σ Dᵢ·2^Eᵢ` when exponents do not increase -/
theorem C01_dictsum (ts : List (Nat × Nat)) (cur E : Nat) (h : P.DictSum.Desc E ts) :
    (∀ y ∈ P.DictSum.go cur E ts, ∃ x, (x = cur ∨ x ∈ P.DictSum.go cur E ts) ∧
        (y = x + x ∨ ∃ t ∈ ts, y = x + t.1)) ∧
    P.DictSum.lastOr (P.DictSum.go cur E ts) cur = cur * 2 ^ E + P.DictSum.value ts :=
  P.DictSum.go_spec ts cur E h

/-- final assembly step of the dictionary / runs algorithms: sort + unique of a sum-closed pruned
    chain and the `dictsumchain` elements is an addition chain ending at `n` -/
theorem C01_assemble (pruned dc : List Int) (n cur0 : Int)
    (hp1 : (1 : Int) ∈ pruned) (hppos : ∀ x ∈ pruned, 1 ≤ x)
    (hpcl : ∀ x ∈ pruned, x = 1 ∨ ∃ a ∈ pruned, ∃ b ∈ pruned, a + b = x)
    (hcur : cur0 ∈ pruned)
    (hdcl : ∀ y ∈ dc, ∃ x, (x = cur0 ∨ x ∈ dc) ∧ (y = x + x ∨ ∃ d ∈ pruned, y = x + d))
    (hdpos : ∀ y ∈ dc, 1 ≤ y) (hle : ∀ x ∈ pruned ++ dc, x ≤ n) (hn : n ∈ pruned ++ dc) :
    IsChain (sortUniq (pruned ++ dc)) ∧ (sortUniq (pruned ++ dc)).getLast? = some n :=
  dict_assemble pruned dc n cur0 hp1 hppos hpcl hcur hdcl hdpos hle hn

/-- `Execute` succeeds as soon as `FindChain` returns a valid chain ending at the target -/
theorem C01_execute_of_find (a : ChainAlg) (n : Nat) (o : List TermP) (c : List Int)
    (hf : a.find n o = .ok c) (hc : IsChain c) (hl : c.getLast? = some (n : Int)) :
    ∃ p, execute a n o = .ok (c, p) := by
  obtain ⟨p, hp⟩ := (validate_iff c).2 hc
  refine ⟨p, ?_⟩
  unfold execute
  rw [hf]
  dsimp only
  rw [hp]
  dsimp only
  simp [hl]

/-- totality, binary method: no error for any `n ≥ 1` -/
theorem C01_total_binary (n : Nat) (hn : 1 ≤ n) (o : List TermP) :
    ∃ c p, execute .binaryRTL n o = .ok (c, p) := by
  obtain ⟨h1, h2⟩ := binary_ok n hn
  have hf : ChainAlg.binaryRTL.find n o = .ok (rtl n) := by
    show Except.ok (if n = 0 then [] else rtl n) = _
    rw [if_neg (Nat.ne_of_gt hn)]
  obtain ⟨p, hp⟩ := C01_execute_of_find _ n o _ hf h1 h2
  exact ⟨_, p, hp⟩

/-- totality, heuristic compositions containing a total heuristic used as chain algorithms -/
theorem C01_total_heuristic (h : Heur) (ht : h.isTotal = true) (n : Nat) (hn : 1 ≤ n) (o : List TermP) :
    ∃ c p, execute (.asChain (.heuristic h)) n o = .ok (c, p) := by
  obtain ⟨c, h1, h2, h3⟩ := heuristic_asChain h ht n hn
  have hf : (ChainAlg.asChain (.heuristic h)).find n o = .ok c := by
    unfold ChainAlg.find; rw [h1]
  obtain ⟨p, hp⟩ := C01_execute_of_find _ n o _ hf h2 h3
  exact ⟨_, p, hp⟩

/-- totality lifts through the optimisation wrapper (uses C10) -/
theorem C01_total_opt (a : ChainAlg) (n : Nat) (o : List TermP) (c : List Int) (p : List Op)
    (h : execute a n o = .ok (c, p)) : ∃ p', execute (.opt a) n o = .ok (P.OptX.optimize c, p') := by
  obtain ⟨hc, hl, _, _⟩ := C01_execute_sound a n o c p h
  have hf := (execute_ok a n o c p h).1
  obtain ⟨h1, _, _, h4⟩ := P.OptX.optimize_ok c hc
  have hf' : (ChainAlg.opt a).find n o = .ok (P.OptX.optimize c) := by
    show (match a.find n o with
      | Except.error e => (Except.error e : Except Err (List Int))
      | Except.ok c => Except.ok (P.OptX.optimize c)) = _
    rw [hf]
  exact C01_execute_of_find _ n o _ hf' h1 (by rw [h4, hl])

/-- non-vacuity: a dictionary algorithm with the optimisation wrapper is well-formed -/
example : (ChainAlg.opt (.dict (.sliding 4) (.heuristic (.useFirst [.halving, .deltaLargest])))).wf = true := by decide

/-- **source-level**: `dictsumchain` as TRANSLATED from the current dict.go, on a sum `L ++ [b]` of natural
    terms whose exponents do not increase from the top term `b` down: it never panics, every emitted
    element is the double of its predecessor or its predecessor plus a dictionary entry of the sum, and
    the last one is the value of the whole sum -/
theorem C01_src_dictsum (L : List (Nat × Nat)) (b : Nat × Nat) (h : P.DictSum.Desc b.2 L.reverse) :
    ∃ dc : List Nat, AC.Gen.Program.dictdictsumchain (AC.DictSumTie.G (L ++ [b])) = some (AC.DictSumTie.I dc) ∧
      (∀ y ∈ dc, ∃ x, (x = b.1 ∨ x ∈ dc) ∧ (y = x + x ∨ ∃ t ∈ L.reverse, y = x + t.1)) ∧
      P.DictSum.lastOr dc b.1 = b.1 * 2 ^ b.2 + P.DictSum.value L.reverse := by
  refine ⟨P.DictSum.go b.1 b.2 L.reverse, ?_, C01_dictsum L.reverse b.1 b.2 h⟩
  rw [AC.DictSumTie.dictsumchain_tie (L ++ [b]) (by simp)]
  simp [P.DictSum.dictsumchain]

/-- the translated `dictsumchain` never panics on a non-empty sum of natural terms (any order) -/
theorem C01_src_dictsum_total (l : List (Nat × Nat)) (hne : l ≠ []) :
    AC.Gen.Program.dictdictsumchain (AC.DictSumTie.G l) =
      some (AC.DictSumTie.I (dictSumChain l)) := by
  rw [AC.DictSumTie.dictsumchain_tie l hne]; rfl

/-- the pair form of a decomposition term -/
def pairOf (t : P.Bits.Term) : Nat × Nat := (t.d, t.e)

theorem G_pairs (s : List P.Bits.Term) : AC.DictSumTie.G (s.map pairOf) = AC.DecompTie.toGTs s := by
  simp [AC.DictSumTie.G, AC.DecompTie.toGTs, AC.DictSumTie.toG, AC.DecompTie.toGT, pairOf]

theorem value_pairs (s : List P.Bits.Term) : P.DictSum.value (s.map pairOf) = P.Bits.value s := by
  simp [P.DictSum.value, P.Bits.value, pairOf, List.map_map, Function.comp_def]

/-- **source-level, two translated functions composed**: on a sum `S ++ [b]` whose exponents do not
    increase from the top term down, the chain the translated `dictsumchain` emits ends at exactly the
    integer the translated `Sum.Int` computes for that sum (or, when nothing is emitted, the top
    dictionary entry already is that integer) — "the last element is exactly n" given C09's `Sum.Int() = n` -/
theorem C01_src_dictsum_ends_at_sumInt (S : List P.Bits.Term) (b : P.Bits.Term)
    (h : P.DictSum.Desc b.e (S.map pairOf).reverse) :
    ∃ dc : List Nat, ∃ v : Nat,
      AC.Gen.Program.dictdictsumchain (AC.DecompTie.toGTs (S ++ [b])) = some (AC.DictSumTie.I dc) ∧
      AC.Gen.Program.dictSumInt (AC.DecompTie.toGTs (S ++ [b])) = some (v : Int) ∧
      P.DictSum.lastOr dc b.d = v := by
  obtain ⟨dc, h1, _, h3⟩ := C01_src_dictsum (S.map pairOf) (pairOf b) h
  refine ⟨dc, P.Bits.value (S ++ [b]), ?_, AC.DecompTie.sumInt_tie _, ?_⟩
  · rw [← G_pairs]; simpa using h1
  · have : (pairOf b).1 = b.d := rfl
    have h2 : (pairOf b).2 = b.e := rfl
    rw [this, h2, ← valueP_eq_value, valueP_reverse, valueP_eq_value, value_pairs] at h3
    rw [h3, P.Bits.value_append, P.Bits.value_cons, Nat.add_comm]
    rfl

/-- non-vacuity: the sum 1·2^0 + 3·2^2 + 1·2^5 meets the hypothesis -/
example : P.DictSum.Desc (⟨1, 5⟩ : P.Bits.Term).e (([⟨1, 0⟩, ⟨3, 2⟩] : List P.Bits.Term).map pairOf).reverse := by
  simp [P.DictSum.Desc, pairOf]

/-- **source-level**: `binary.RightToLeft.FindChain` as TRANSLATED from the current binary.go (the nil-able
    pointer `x` as an `Option`, the loop on a fuel counter with its condition re-checked): for every
    `n ≥ 1` it does not panic, does not run out of fuel, returns a nil error and a valid chain ending at `n` -/
theorem C01_src_binary (n : Nat) (hn : 1 ≤ n) :
    ∃ c, AC.Gen.Program.binaryRightToLeftFindChain (n : Int) = some (c, AC.GoPrim.goNil) ∧
      IsChain c ∧ c.getLast? = some (n : Int) :=
  ⟨rtl n, AC.BinaryTie.rtl_tie n hn, C01_binary n hn⟩

end AC.Props.C01
