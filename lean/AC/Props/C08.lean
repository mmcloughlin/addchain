import AC.SeqAlg
import AC.HeurTie
/-! # C08 — addition-sequence algorithms return a valid chain containing every target

Model: `P.SeqAlg.find` — `heuristic.Algorithm.FindSequence` (Bos–Coster loop over `Suggest` of
Halving / DeltaLargest / Approximation / UseFirst) and `contfrac.Algorithm.FindSequence`
(`chain`/`minchain` with the seven strategies). Targets are lists of integers in any order, with
or without repeats, 1 and 2. -/
namespace AC.Props.C08
open P

/-- heuristic compositions containing a total heuristic: always succeed with a valid chain ⊇ targets -/
theorem C08_heuristic_total (h : Heur) (ht : h.isTotal = true) (T : List Int) (hT : ∀ x ∈ T, 1 ≤ x) :
    ∃ c, (SeqAlg.heuristic h).find T = some c ∧ IsChain c ∧ ∀ x ∈ T, x ∈ c :=
  findSequence_total h.suggest h.sound (h.total ht) T hT _ (Nat.le_refl _)

/-- any heuristic (also a partial one used alone): may fail, never returns a bad chain -/
theorem C08_heuristic_partial (h : Heur) (T c : List Int) (hT : ∀ x ∈ T, 1 ≤ x)
    (hc : (SeqAlg.heuristic h).find T = some c) : IsChain c ∧ ∀ x ∈ T, x ∈ c :=
  findSequence_ok h.suggest h.sound _ T c hT hc

/-- continued fractions, every strategy: whatever the executable model returns is a valid chain ⊇ targets -/
theorem C08_contfrac_ok (s : Strategy) (T c : List Int) (hne : T ≠ []) (hT : ∀ x ∈ T, 1 ≤ x)
    (hc : (SeqAlg.contfrac s).find T = some c) : IsChain c ∧ ∀ x ∈ T, x ∈ c := by
  obtain ⟨f, hf⟩ := cfSearch_some s _ c _ _ hc
  exact contfrac_ok s f T c hne hT hf

/-- continued fractions, every strategy, termination: the recursion of `chain`/`minchain` returns
    for some fuel (every strategy proposes `2 ≤ k < n`), with a valid chain ⊇ targets; by `C08_fuel_mono`
    every larger fuel returns the same chain -/
theorem C08_contfrac_complete (s : Strategy) (T : List Int) (hne : T ≠ []) (hT : ∀ x ∈ T, 1 ≤ x) :
    ∃ f c, chain s f (T.mergeSort (fun a b => a ≤ b)) = some c ∧ IsChain c ∧ ∀ x ∈ T, x ∈ c :=
  contfrac_complete s T hne hT

theorem C08_fuel_mono (s : Strategy) (f k : Nat) (ns c : List Int) (h : chain s f ns = some c) :
    chain s (f + k) ns = some c := chain_mono_add s f k ns c h

/-- every strategy proposes only `2 ≤ k < n` and at least one `k` (what makes the recursion terminate) -/
theorem C08_strategy_range (s : Strategy) : StratOK s := stratOK_all s

/-- non-vacuity -/
example : (Heur.useFirst [.halving, .deltaLargest]).isTotal = true := by decide

/-! ## The `Suggest` methods of heuristic.go and the strategies of contfrac.go as TRANSLATED

`AC/Gen/ProgramFns.lean` is regenerated from the Go source on every run (harness/cmd/extract/gotr.go);
`AC/HeurTie.lean` proves the translated functions equal to the models the theorems above are about. -/

/-- the translated `Halving.Suggest`, on a non-empty protosequence with a positive last element and a
    non-negative target: never panics and returns the model's suggestion (`[]` = nil = no suggestion) -/
theorem C08_src_halving (f : List Int) (t : Int) (hf : f ≠ []) (hnext : 0 < f.getLastD 0) (ht : 0 ≤ t) :
    AC.Gen.Program.heuristicHalvingSuggest f t = some ((suggestHalving f t).getD []) :=
  AC.HeurTie.halving_tie f t hf hnext ht

/-- the translated `Approximation.Suggest` on a sorted protosequence returns the model's suggestion (the
    two-pointer scan; never panics, never out of loop fuel) -/
theorem C08_src_approximation (f : List Int) (t : Int) (hs : f.Pairwise (· ≤ ·)) :
    AC.Gen.Program.heuristicApproximationSuggest f t = suggestApprox f t :=
  AC.HeurTie.approx_tie f t hs

/-- all seven translated strategies of contfrac.go (`dyadic`, `fermat`, `total`: loops on a fuel counter, never
    exhausted; `sqrt` through the primitive `bSqrt`) propose exactly the model's k (every non-negative n) -/
theorem C08_src_strategies (n : Int) (hn : 0 ≤ n) :
    AC.Gen.Program.contfracBinaryStrategyK n = some (Strategy.K .binary n) ∧
    AC.Gen.Program.contfracCoBinaryStrategyK n = some (Strategy.K .coBinary n) ∧
    AC.Gen.Program.contfracDichotomicStrategyK n = some (Strategy.K .dichotomic n) ∧
    AC.Gen.Program.contfracDyadicStrategyK n = some (Strategy.K .dyadic n) ∧
    AC.Gen.Program.contfracFermatStrategyK n = some (Strategy.K .fermat n) ∧
    AC.Gen.Program.contfracTotalStrategyK n = some (Strategy.K .total n) ∧
    AC.Gen.Program.contfracSqrtStrategyK n = some (Strategy.K .sqrt n) :=
  ⟨AC.HeurTie.binaryK_tie n, AC.HeurTie.coBinaryK_tie n hn, AC.HeurTie.dichotomicK_tie n hn,
    AC.HeurTie.dyadicK_tie n hn, AC.HeurTie.fermatK_tie n hn, AC.HeurTie.totalK_tie n, AC.HeurTie.sqrtK_tie n hn⟩

/-- the translated `DeltaLargest.Suggest` panics exactly when the target does not exceed the last
    element and otherwise suggests the difference -/
theorem C08_src_deltaLargest (f : List Int) (t l : Int) (hl : f.getLast? = some l) :
    AC.Gen.Program.heuristicDeltaLargestSuggest f t = if t - l ≤ 0 then none else some [t - l] :=
  AC.HeurTie.deltaLargest_tie f t l hl

end AC.Props.C08
