import AC.ExecTrace
/-! # Completeness of the trace acceptor of C12

The converse of `accepts_sound`: the observable trace of EVERY execution of the LTS from `init` that ends
with main returned is accepted, so a trace recorded from a correct implementation is never rejected.

The proof is a simulation: `Rel s c` relates the state `s` of an arbitrary execution with the state
`c` of the acceptor's canonical schedule on the same observable trace (main spawns as late as
possible, a worker stores right before its `done` line and releases right after it).  The
canonical state is itself reachable (`stepEv_sound`), so it satisfies the invariant of the LTS and
`Rel` only has to say how the two states differ. -/
namespace P.ExecT

/-- where the canonical run has a worker that the arbitrary run has in phase `p`, once spawned:
    the store is delayed to the `done` line and the release follows it at once -/
def canon : Phase → Phase
  | .stored => .finished
  | .doneLogged => .released
  | p => p

/-- phase of a worker in an arbitrary execution vs. in the canonical run on the same trace: the
    canonical one, except that the canonical main may not have spawned the worker yet -/
def phRel (p q : Phase) : Prop := q = canon p ∨ (p = .spawned ∧ q = .idle)

theorem phRel.eq_canon {p q : Phase} (h : phRel p q) (hp : p ≠ .spawned) : q = canon p :=
  h.elim id fun h => absurd h.1 hp

theorem canon_eq_idle {p : Phase} (h : .idle = canon p) : p = .idle := by
  cases p <;> simp [canon] at h ⊢

theorem holds_of_canon {p : Phase} (h : holds (canon p) = true) : holds p = true := by
  cases p <;> simp [canon, holds] at h ⊢

theorem phRel.holds {p q : Phase} (h : phRel p q) (hq : holds q = true) : holds p = true :=
  h.elim (fun e => holds_of_canon (e ▸ hq)) fun e => e.1 ▸ rfl

/-- the canonical run holds no more tokens than the arbitrary one -/
theorem countP_holds_le {sp cp : List Phase} (hl : cp.length = sp.length)
    (h : ∀ (i : Nat) p q, sp[i]? = some p → cp[i]? = some q → phRel p q) :
    cp.countP holds ≤ sp.countP holds :=
  Cell.countP_le_of_forall₂ hl fun i q p hq hp => (h i p q hp hq).holds

/-- main of the canonical run returns together with main of the arbitrary run; until then it is
    spawning (its closing sends happen inside `ret`) and has spawned no more workers -/
def mainRel (k : Nat) (m mc : Main) : Prop :=
  (m = .returned ∧ mc = .returned) ∨
    (m ≠ .returned ∧ ∃ jc, mc = .spawning jc ∧ jc ≤ spawnedCnt m k)

/-- until the arbitrary run returns, the canonical main is still spawning, and not ahead of it -/
theorem mainRel.spawning {k : Nat} {m mc : Main} (h : mainRel k m mc) (hm : m ≠ .returned) :
    ∃ jc, mc = .spawning jc ∧ jc ≤ spawnedCnt m k :=
  h.elim (fun h => absurd h.1 hm) fun h => h.2

theorem mainRel.mono {k : Nat} {m m' mc : Main} (h : mainRel k m mc) (hm : m ≠ .returned)
    (hm' : m' ≠ .returned) (hle : spawnedCnt m k ≤ spawnedCnt m' k) : mainRel k m' mc :=
  let ⟨jc, hc, hj⟩ := h.spawning hm
  Or.inr ⟨hm', jc, hc, Nat.le_trans hj hle⟩

structure Rel (k L : Nat) (s c : St) : Prop where
  inv : Inv k L s
  cinv : Inv k L c
  ph : ∀ (i : Nat) p q, s.ph[i]? = some p → c.ph[i]? = some q → phRel p q
  main : mainRel k s.main c.main

theorem rel_init (k L : Nat) : Rel k L (init k) (init k) where
  inv := inv_init k L
  cinv := inv_init k L
  ph i p q hp hq := by
    rw [Cell.eq_of_getElem?_replicate hp, Cell.eq_of_getElem?_replicate hq]; exact Or.inl rfl
  main := Or.inr ⟨nofun, 0, rfl, Nat.zero_le _⟩

theorem not_returned_of_holds {k L : Nat} {s : St} (hi : Inv k L s) {i : Nat} {p : Phase}
    (hp : s.ph[i]? = some p) (hh : holds p = true) : s.main ≠ .returned :=
  fun hm => Nat.ne_of_gt (Cell.countP_pos holds hp hh) (hi.nHolding_zero hm)

/-- while the main goroutine is still spawning it has sent nothing itself: every token is a worker's -/
theorem tokens_of_spawning {k L : Nat} {s : St} (hi : Inv k L s) {j : Nat} (hm : s.main = .spawning j) :
    s.tokens = nHolding s := by
  have h : s.tokens = nHolding s + mainHeld L s.main := hi.tok
  rw [hm] at h
  exact h

theorem sim_silent {k L : Nat} {s t c : St} {a : Act} (hr : Rel k L s c) (hs : Step k L s a t)
    (ho : obs a = none) : Rel k L t c := by
  have hinv := inv_step hr.inv hs
  cases hs with
  | spawn j hm hj hl =>
    have hidle := hr.inv.idle_of_le hj (by rw [hm]; exact Nat.le_refl j)
    exact ⟨hinv, hr.cinv,
      Cell.forall₂_set_left hr.ph fun q hq =>
        Or.inr ⟨rfl, (hr.ph j .idle q hidle hq).eq_canon nofun⟩,
      hr.main.mono (by rw [hm]; nofun) nofun (by rw [hm]; exact Nat.le_succ j)⟩
  | toWait hm | waitSend w hm hw hl =>
    exact ⟨hinv, hr.cinv, hr.ph,
      hr.main.mono (by rw [hm]; nofun) nofun (by rw [hm]; exact Nat.le_refl k)⟩
  | ret hm => cases ho
  | loc i p q e hi hloc hp => cases ho
  | store i hi hp =>
    exact ⟨hinv, hr.cinv,
      Cell.forall₂_set_left hr.ph fun q hq => Or.inl ((hr.ph i .finished q hp hq).eq_canon nofun),
      hr.main⟩
  | release i hi hp hpos =>
    exact ⟨hinv, hr.cinv,
      Cell.forall₂_set_left hr.ph fun q hq =>
        Or.inl ((hr.ph i .doneLogged q hp hq).eq_canon nofun),
      hr.main⟩

/-- while the canonical main lags behind, its next spawn is enabled (the worker already holds a
    token in the arbitrary run, so the channel has room) and keeps the relation -/
theorem rel_spawn {k L : Nat} {s c : St} {jc : Nat} (hr : Rel k L s c) (hc : c.main = .spawning jc)
    (hlt : jc < spawnedCnt s.main k) :
    jc < k ∧ c.tokens < L ∧ Rel k L s
      { c with main := .spawning (jc + 1), tokens := c.tokens + 1, ph := c.ph.set jc .spawned } := by
  have hjk : jc < k := Nat.lt_of_lt_of_le hlt hr.inv.spawn_le
  have hcidle := hr.cinv.idle_of_le hjk (by rw [hc]; exact Nat.le_refl jc)
  have hsp : ∀ p, s.ph[jc]? = some p → phRel p .spawned := by
    intro p hp
    rcases hr.ph jc p .idle hp hcidle with h | h
    · exact absurd ((hr.inv.idle_iff jc p hp).1 (canon_eq_idle h)) (Nat.not_le_of_gt hlt)
    · rw [h.1]; exact Or.inl rfl
  have hph := Cell.forall₂_set_right hr.ph hsp
  have ht : c.tokens < L := by
    have h2 := countP_holds_le (List.length_set.trans (hr.cinv.len_ph.trans hr.inv.len_ph.symm)) hph
    rw [Cell.countP_set_gain holds hcidle rfl rfl] at h2
    exact tokens_of_spawning hr.cinv hc ▸ Nat.lt_of_lt_of_le h2 hr.inv.count_le
  refine ⟨hjk, ht, hr.inv, inv_step hr.cinv (Step.spawn c jc hc hjk ht), hph, ?_⟩
  exact hr.main.elim (fun h => by rw [h.2] at hc; cases hc) fun h => Or.inr ⟨h.1, jc + 1, rfl, hlt⟩

theorem rel_spawnN {k L : Nat} {s : St} (n : Nat) : ∀ (c : St) (jc : Nat), Rel k L s c →
    c.main = .spawning jc → jc + n ≤ spawnedCnt s.main k →
    ∃ c', spawnN k L n c = some c' ∧ Rel k L s c' ∧ c'.main = .spawning (jc + n) := by
  induction n with
  | zero => exact fun c _ hr hc _ => ⟨c, rfl, hr, hc⟩
  | succ n ih =>
    intro c jc hr hc hle
    obtain ⟨hjk, ht, hr'⟩ :=
      rel_spawn hr hc (Nat.lt_of_lt_of_le (Nat.lt_add_of_pos_right n.succ_pos) hle)
    obtain ⟨c', h1, h2, h3⟩ := ih _ (jc + 1) hr' rfl (by rw [Nat.add_right_comm]; exact hle)
    exact ⟨c', (spawnN_succ n hc hjk ht).trans h1, h2, by rw [h3, Nat.add_right_comm]; rfl⟩

/-- `jc + (i + 1 - jc)` is `max jc (i + 1)`: the catch-up before `start i`, from `jc` workers spawned,
    spawns up to worker `i` and no further than the arbitrary run, which has spawned `S` -/
theorem add_succ_sub_bounds {jc i S : Nat} (hjc : jc ≤ S) (hi : i < S) :
    jc + (i + 1 - jc) ≤ S ∧ i < jc + (i + 1 - jc) := by
  rcases Nat.le_total jc (i + 1) with h | h
  · rw [Nat.add_sub_cancel' h]; exact ⟨hi, Nat.lt_succ_self i⟩
  · rw [Nat.sub_eq_zero_of_le h]; exact ⟨hjc, h⟩

theorem rel_catchUp {k L : Nat} {s c : St} {i : Nat} (hr : Rel k L s c) (hi : i < k)
    (hp : s.ph[i]? = some .spawned) :
    ∃ c1, catchUp k L c i = some c1 ∧ Rel k L s c1 ∧ c1.ph[i]? = some .spawned := by
  obtain ⟨jc, hc, hjc⟩ := hr.main.spawning (not_returned_of_holds hr.inv hp rfl)
  have ⟨hle, hgt⟩ := add_succ_sub_bounds hjc (hr.inv.lt_sp hp nofun)
  obtain ⟨c1, h1, hr1, hc1⟩ := rel_spawnN (i + 1 - jc) c jc hr hc hle
  refine ⟨c1, (catchUp_spawning i hc).trans h1, hr1, ?_⟩
  have hcq := List.getElem?_eq_getElem (hr1.cinv.len_ph ▸ hi : i < c1.ph.length)
  -- worker `i` is below the canonical spawn pointer now, so not idle
  rw [hcq]
  exact congrArg some <| (hr1.ph i .spawned _ hp hcq).elim id fun h =>
    absurd ((hr1.cinv.idle_iff i _ hcq).1 h.2) (by rw [hc1]; exact Nat.not_le_of_gt hgt)

theorem sim_event {k L : Nat} {s t c : St} {e : Event} (hr : Rel k L s c)
    (hs : Step k L s (.ev e) t) : ∃ c', stepEv k L c e = some c' ∧ Rel k L t c' := by
  have hinv := inv_step hr.inv hs
  -- the invariant of the new canonical state comes with the step
  suffices h : ∃ c', stepEv k L c e = some c' ∧
      (∀ (i : Nat) p q, t.ph[i]? = some p → c'.ph[i]? = some q → phRel p q) ∧
      mainRel k t.main c'.main from
    let ⟨c', hst, hph, hm⟩ := h
    ⟨c', hst, hinv, hr.cinv.stepEv hst, hph, hm⟩
  cases hs with
  | ret hm =>
    obtain ⟨jc, hc, hjc⟩ : ∃ jc, c.main = .spawning jc ∧ jc ≤ k := by
      have h := hr.main.spawning (by rw [hm]; nofun)
      rwa [hm] at h
    -- worker `jc` has released in the arbitrary run, so the canonical main has spawned it
    have hjk : jc = k := (Nat.lt_or_eq_of_le hjc).resolve_left fun h => by
      have hidle := hr.cinv.idle_of_le h (by rw [hc]; exact Nat.le_refl jc)
      cases (hr.ph jc .released .idle (hinv.return_complete rfl jc h).2 hidle).eq_canon nofun
    have hct : c.tokens = 0 := by
      have h2 := countP_holds_le (hr.cinv.len_ph.trans hr.inv.len_ph.symm) hr.ph
      rw [show s.ph.countP holds = 0 from hinv.nHolding_zero rfl] at h2
      exact (tokens_of_spawning hr.cinv hc).trans (Nat.eq_zero_of_le_zero h2)
    exact ⟨_, if_pos ⟨hjk ▸ hc, hct⟩, hr.ph, Or.inl ⟨rfl, rfl⟩⟩
  | loc i p q e' hi hloc hp =>
    have hcq := List.getElem?_eq_getElem (hr.cinv.len_ph ▸ hi : i < c.ph.length)
    have hpq := hr.ph i p _ hp hcq
    cases hloc with
    | run | fin =>
      rw [hpq.eq_canon nofun] at hcq
      exact ⟨_, if_pos ⟨hi, hcq⟩, Cell.forall₂_set hr.ph (Or.inl rfl), hr.main⟩
    | done =>
      rw [hpq.eq_canon nofun] at hcq
      have hpos : 0 < c.tokens :=
        hr.cinv.tok ▸ Nat.lt_add_right _ (Cell.countP_pos holds hcq rfl)
      refine ⟨_, if_pos ⟨hi, hcq, hpos⟩, ?_, hr.main⟩
      show ∀ (j : Nat) p q, (s.ph.set i .doneLogged)[j]? = some p →
        (((c.ph.set i .stored).set i .doneLogged).set i .released)[j]? = some q → phRel p q
      -- `stepEv` writes the store, the `done` line and the release of the canonical run one after the other
      rw [List.set_set, List.set_set]
      exact Cell.forall₂_set hr.ph (Or.inl rfl)
    | start =>
      obtain ⟨c1, h1, hr1, hc1⟩ := rel_catchUp hr hi hp
      refine ⟨setPh c1 i .started, ?_, Cell.forall₂_set hr1.ph (Or.inl rfl), hr1.main⟩
      show (if i < k then _ else none) = _
      rw [if_pos hi, h1]
      exact if_pos hc1

theorem exec_runEv {k L : Nat} {as : List Act} {s : St} (h : Exec k L (init k) as s) :
    ∃ c, runEv k L (init k) (as.filterMap obs) = some c ∧ Rel k L s c := by
  induction h with
  | nil => exact ⟨init k, rfl, rel_init k L⟩
  | @snoc _ _ _ a _ hs ih =>
    obtain ⟨c, hc, hr⟩ := ih
    rw [List.filterMap_append, runEv_append, hc]
    cases a with
    | ev e =>
      obtain ⟨c', hst, hr'⟩ := sim_event hr hs
      exact ⟨c', by show (stepEv k L c e).bind _ = _; rw [hst]; rfl, hr'⟩
    | _ => exact ⟨c, rfl, sim_silent hr hs rfl⟩

/-- **completeness of the acceptor**: the observable trace of every execution of the LTS from `init`
    that ends with main returned is accepted -/
theorem accepts_complete {k L : Nat} {as : List Act} {s : St} (h : Exec k L (init k) as s)
    (hret : s.main = .returned) : accepts k L (as.filterMap obs) = none := by
  obtain ⟨c, hc, hr⟩ := exec_runEv h
  have hcm : c.main = .returned := hr.main.elim (·.2) fun h => absurd hret h.1
  exact (acceptsFrom_eq_none _ _ 0).mpr
    ⟨c, hc, isFinal_of hcm fun i hi => (hr.cinv.return_complete hcm i hi).1⟩

/-- the acceptor is exact: a trace is accepted iff it is the observable trace of a complete
    execution of the LTS -/
theorem accepts_iff {k L : Nat} (tr : List Event) :
    accepts k L tr = none ↔ ∃ as s, Exec k L (init k) as s ∧ as.filterMap obs = tr ∧ s.main = .returned := by
  constructor
  · exact accepts_sound
  · rintro ⟨as, s, h, rfl, hr⟩
    exact accepts_complete h hr

end P.ExecT
