import AC.Gen.ProgramFns
import AC.BigintTie
import AC.Merge
import AC.GoAlg
/-! # The translated internal/bigints helpers equal their models

`bigintsIndex`, `bigintsContains`, `bigintsClone`, `bigintsConcat`, `bigintsUnique`, `bigintsMergeUnique`,
`bigintsInsertSortedUnique` of `AC/Gen/ProgramFns.lean` are regenerated from internal/bigints/bigints.go on
every run, `bigintBitsSet` and `bigintPow2UpTo` from internal/bigint/bigint.go; each is proved equal to the
list function the theorems (C08, C19) are stated over. None of them ever panics or runs out of loop fuel. -/
namespace AC.BigintsTie
open AC.Gen.Program AC.GoPrim AC.BigPrim P

theorem index_loop_tie (n : Int) (xs0 : List Int) : ∀ (xs : List Int) (i : Nat),
    bigintsIndex_loop1 xs (i : Int) n xs0 = some (HX.indexFrom n xs i) := by
  intro xs
  induction xs with
  | nil => intro _; rfl
  | cons x xs ih =>
    intro i
    have ih := Int.natCast_add_one i ▸ ih (i + 1)
    simp only [bigintsIndex_loop1, HX.indexFrom, AC.BigintTie.equal_eq, go_simp, ih]
    by_cases h : n = x
    · rw [if_pos h, if_pos h]
    · rw [if_neg h, if_neg h]

theorem index_eq (n : Int) (xs : List Int) : bigintsIndex n xs = some (HX.index n xs) := by
  unfold bigintsIndex
  rw [show (0 : Int) = ((0 : Nat) : Int) from rfl, index_loop_tie]; rfl

theorem indexFrom_eq (n : Int) (xs : List Int) : ∀ (i : Nat),
    HX.indexFrom n xs i = if n ∈ xs then ((i + xs.idxOf n : Nat) : Int) else -1 := by
  induction xs with
  | nil => intro _; rfl
  | cons x xs ih =>
    intro i
    simp only [HX.indexFrom, ih (i + 1), List.idxOf_cons, List.mem_cons]
    by_cases h : n = x
    · simp only [h, if_true, true_or, BEq.rfl, cond_true]; rfl
    · simp only [h, if_false, false_or, beq_false_of_ne (Ne.symm h), cond_false, Nat.add_right_comm i 1,
        Nat.add_assoc]

theorem index_tie (n : Int) (xs : List Int) :
    bigintsIndex n xs = some (if n ∈ xs then ((xs.idxOf n : Nat) : Int) else -1) := by
  rw [index_eq, HX.index, indexFrom_eq, Nat.zero_add]

theorem contains_tie (n : Int) (xs : List Int) : bigintsContains n xs = some (xs.contains n) := by
  unfold bigintsContains
  rw [index_eq]
  exact congrArg some (Bool.eq_iff_iff.2 ((HX.contains_iff n xs).trans List.contains_iff_mem.symm))

theorem clone_tie (xs : List Int) : bigintsClone xs = some xs := rfl

theorem concat_tie (xs ys : List Int) : bigintsConcat xs ys = some (xs ++ ys) := rfl

theorem unique_loop_tie (xs0 : List Int) : ∀ (xs pre : List Int) (l : Int),
    bigintsUnique_loop1 xs xs0 (pre ++ [l]) = some (pre ++ uniq (l :: xs)) := by
  intro xs
  induction xs with
  | nil => intro pre l; rfl
  | cons x xs ih =>
    intro pre l
    simp only [bigintsUnique_loop1, idx_len_sub_one, List.getLast?_concat, go_simp, AC.BigintTie.equal_eq, uniq]
    by_cases h : x = l
    · rw [if_neg (not_not_intro h), if_pos h.symm, ih pre l, h]
    · rw [if_pos h, if_neg (Ne.symm h), ih (pre ++ [l]) x, List.append_assoc]; rfl

theorem unique_tie (xs : List Int) : bigintsUnique xs = some (uniq xs) := by
  unfold bigintsUnique
  cases xs with
  | nil => rfl
  | cons x xs =>
    simp only [go_simp]
    exact unique_loop_tie (x :: xs) xs [] x

theorem bCmp_val (x y : Int) :
    bCmp x y = if x < y then -1 else if x = y then 0 else 1 := rfl

theorem merge_loop_tie : ∀ (fuel : Nat) (xs ys r : List Int), xs.length + ys.length ≤ fuel →
    bigintsMergeUnique_loop1 fuel xs ys r = some (r ++ mergeUnique xs ys) := by
  intro fuel
  induction fuel with
  | zero =>
    intro xs ys r h
    rw [List.eq_nil_of_length_eq_zero (Nat.eq_zero_of_add_eq_zero_right (Nat.le_zero.1 h)),
      List.eq_nil_of_length_eq_zero (Nat.eq_zero_of_add_eq_zero_left (Nat.le_zero.1 h))]
    simp [bigintsMergeUnique_loop1, len, mergeUnique]
  | succ fuel ih =>
    intro xs ys r h
    cases xs with
    | nil => simp [bigintsMergeUnique_loop1, len, mergeUnique]
    | cons x xs =>
      cases ys with
      | nil => simp [bigintsMergeUnique_loop1, len, mergeUnique]
      | cons y ys =>
        have hy : xs.length + 1 + ys.length ≤ fuel := Nat.le_of_succ_le_succ h
        have hx : xs.length + (ys.length + 1) ≤ fuel :=
          Nat.le_trans (Nat.le_of_eq (Nat.add_right_comm xs.length ys.length 1)) hy
        rw [mergeUnique]
        simp only [bigintsMergeUnique_loop1, go_simp, len_cons_pos, and_self, if_true]
        by_cases h1 : x < y
        · rw [if_pos h1, if_pos h1, ih xs (y :: ys) (r ++ [x]) hx, List.append_assoc]; rfl
        · rw [if_neg h1, if_neg h1]
          by_cases h2 : x = y
          · rw [if_pos h2, if_pos h2, ih xs ys (r ++ [x]) (Nat.le_of_succ_le hx), List.append_assoc]; rfl
          · rw [if_neg h2, if_neg h2, if_pos (Int.lt_iff_le_and_ne.2 ⟨Int.not_lt.1 h1, Ne.symm h2⟩),
              ih (x :: xs) ys (r ++ [y]) hy, List.append_assoc]; rfl

theorem mergeUnique_tie (xs ys : List Int) : bigintsMergeUnique xs ys = some (mergeUnique xs ys) := by
  have := merge_loop_tie (Int.toNat (len xs + len ys)) xs ys [] (Nat.le_of_eq (Int.toNat_natCast _).symm)
  rw [List.nil_append] at this
  exact this

theorem insertSortedUnique_tie (xs : List Int) (x : Int) :
    bigintsInsertSortedUnique xs x = some (insertSortedUnique xs x) := mergeUnique_tie [x] xs

end AC.BigintsTie

namespace AC.BigintsTie
open AC.Gen.Program AC.GoPrim AC.BigPrim P P.HX

theorem bitsSet_loop_tie (x : Nat) : ∀ (n i : Nat) (set : List Nat),
    bigintBitsSet_loop1 n (i : Int) (x : Int) (set.map Int.ofNat) =
      some ((set ++ (List.range' i n).filter (fun j => x.testBit j)).map Int.ofNat) := by
  intro n
  induction n with
  | zero => intro i set; simp [bigintBitsSet_loop1]
  | succ n ih =>
    intro i set
    have ih := Int.natCast_add_one i ▸ ih (i + 1)
    simp only [bigintBitsSet_loop1, bBit_natCast, go_simp, List.range'_succ, List.filter_cons]
    by_cases hb : x.testBit i = true
    · rw [if_pos hb, if_pos rfl, if_pos hb, List.append_cons set i, ← ih, List.map_append]; rfl
    · rw [if_neg hb, if_neg (by decide), if_neg hb, ← ih]

theorem bitsSet_tie (x : Nat) : bigintBitsSet (x : Int) = some ((bitsSet x).map Int.ofNat) := by
  have := bitsSet_loop_tie x (bitLen x) 0 []
  rw [List.nil_append, ← List.range_eq_range'] at this
  exact this

/-- the fuel `x < p·2^fuel` suffices: every round doubles `p` -/
theorem pow2_loop_tie (x : Int) : ∀ (fuel p : Nat) (hp : 0 < p) (ps : List Nat),
    x < (p : Int) * 2 ^ fuel →
    bigintPow2UpTo_loop1 fuel x (p : Int) (ps.map Int.ofNat) =
      some ((ps ++ pow2Loop x p hp).map Int.ofNat) := by
  intro fuel
  induction fuel with
  | zero =>
    intro p hp ps hx
    have hc : ¬ ((p : Int) ≤ x) := by rw [Int.pow_zero, Int.mul_one] at hx; exact Int.not_le.2 hx
    simp only [bigintPow2UpTo_loop1, go_simp, if_neg hc, pow2Loop_of_not_le x p hp hc, List.append_nil]
  | succ fuel ih =>
    intro p hp ps hx
    simp only [bigintPow2UpTo_loop1, go_simp, AC.Gen.Bigint.clone, bLsh_natCast_one]
    by_cases hc : (p : Int) ≤ x
    · have hx' : x < ((2 * p : Nat) : Int) * 2 ^ fuel := by
        rw [Int.pow_succ, Int.mul_comm _ 2, ← Int.mul_assoc, Int.mul_comm _ 2] at hx; exact hx
      rw [if_pos hc, pow2Loop_of_le x p hp hc, List.append_cons ps p, ← ih (2 * p) _ (ps ++ [p]) hx',
        List.map_append]; rfl
    · rw [if_neg hc, pow2Loop_of_not_le x p hp hc, List.append_nil]

theorem pow2UpTo_tie (x : Int) : bigintPow2UpTo x = some ((pow2UpTo x).map Int.ofNat) := by
  have hf : x < ((1 : Nat) : Int) * 2 ^ (Int.toNat (bBitLen x + 1)) := by
    rw [bBitLen, Int.toNat_natCast_add_one, Int.natCast_one, Int.one_mul]
    calc x ≤ (x.natAbs : Int) := Int.le_natAbs
      _ < ((2 ^ (bitLen x.natAbs + 1) : Nat) : Int) := Int.ofNat_lt.2
          (Nat.lt_of_lt_of_le (bitLen_spec x.natAbs).1 (Nat.pow_le_pow_right (by decide) (Nat.le_succ _)))
      _ = _ := Int.natCast_pow 2 _
  exact pow2_loop_tie x _ 1 (by decide) [] hf

end AC.BigintsTie
