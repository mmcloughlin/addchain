import AC.AllocXProof
/-! C17: the allocator never creates more variables than values are alive at the same time
(`P.Alloc.run_n_le`); the number of declared temporaries is at most the number of variables, and the
liveness hypothesis holds with the peak number of simultaneously live chain values
(`AC.PeakLive.peakLive`, an independent position-based count) as the bound. -/
namespace P.Alloc

/-- `L` has at most `K` distinct members -/
def DistinctLE (L : List Nat) (K : Nat) : Prop := ∀ D : List Nat, D.Nodup → (∀ x ∈ D, x ∈ L) → D.length ≤ K

theorem distinctLE_mono {L L' : List Nat} {K : Nat} (h : DistinctLE L' K) (hs : ∀ x ∈ L, x ∈ L') : DistinctLE L K :=
  fun D hnd hD => h D hnd (fun x hx => hs x (hD x hx))

theorem holders (s : St) (live : List Nat) : ∀ m, (∀ v, v < m → ∃ i ∈ live, s.var i = some v) →
    ∃ D : List Nat, D.Nodup ∧ D.length = m ∧ ∀ x ∈ D, x ∈ live ∧ ∃ v, v < m ∧ s.var x = some v := by
  intro m
  induction m with
  | zero => intro _; exact ⟨[], List.nodup_nil, rfl, nofun⟩
  | succ m ih =>
    intro h
    obtain ⟨D, hnd, hlen, hD⟩ := ih (fun v hv => h v (Nat.lt_succ_of_lt hv))
    obtain ⟨i, hi, hiv⟩ := h m (Nat.lt_succ_self m)
    refine ⟨i :: D, List.nodup_cons.mpr ⟨fun hmem => ?_, hnd⟩, by rw [List.length_cons, hlen], ?_⟩
    · obtain ⟨_, v, hv, hvar⟩ := hD i hmem
      cases hiv.symm.trans hvar
      exact Nat.lt_irrefl _ hv
    · intro x hx
      rcases List.mem_cons.mp hx with rfl | hx
      · exact ⟨hi, m, Nat.lt_succ_self m, hiv⟩
      · obtain ⟨h1, v, hv, hvar⟩ := hD x hx
        exact ⟨h1, v, Nat.lt_succ_of_lt hv, hvar⟩

/-- A new variable is created only when the free list is empty, and then every variable is held by a live
    index: with the new index that makes `n + 1` distinct live indices. -/
theorem allocate_n_le {s : St} {live : List Nat} (h : Inv s live) (i K : Nat) (hn : s.n ≤ K)
    (hi : i ∈ live ∨ s.var i = none) (hK : DistinctLE (i :: live) K) : (s.allocate i).n ≤ K := by
  cases hv : s.var i with
  | some v => rw [allocate_of_some hv]; exact hn
  | none =>
    obtain ⟨v, _, ⟨_, hn'⟩ | ⟨hav, _, _, hn'⟩⟩ := allocate_none hv
    · exact hn' ▸ hn
    · have hil : i ∉ live := fun hmem => by
        obtain ⟨v, hv', _, _⟩ := h.live_has i hmem
        cases hv.symm.trans hv'
      obtain ⟨D, hnd, hlen, hD⟩ := holders s live s.n (fun v hv' =>
        (h.cover v hv').resolve_left (fun hm => absurd (hav ▸ hm) List.not_mem_nil))
      have := hK (i :: D) (List.nodup_cons.mpr ⟨fun hmem => hil (hD i hmem).1, hnd⟩) (fun x hx => by
        rcases List.mem_cons.mp hx with rfl | hx
        · exact List.mem_cons_self
        · exact List.mem_cons_of_mem _ (hD x hx).1)
      rw [List.length_cons, hlen] at this
      exact hn' ▸ this

theorem foldl_allocate_n_le (xs : List Nat) {s : St} {live : List Nat} (K : Nat) (h : Inv s live) (hn : s.n ≤ K)
    (hx : ∀ x ∈ xs, x ∈ live ∨ s.var x = none) (hK : DistinctLE (xs.reverse ++ live) K) :
    (xs.foldl St.allocate s).n ≤ K :=
  -- "at most `K` variables if at most `K` distinct live indices" is maintained together with `Inv`
  (foldl_allocate_ind (Q := fun s live => Inv s live ∧ (DistinctLE live K → s.n ≤ K))
    (fun x h hx => ⟨allocate_inv h.1 x hx, fun hK =>
      allocate_n_le h.1 x K (h.2 (distinctLE_mono hK fun _ => List.mem_cons_of_mem _)) hx hK⟩)
    xs ⟨h, fun _ => hn⟩ hx).2 hK

theorem step_n_le {s : St} {live : List Nat} (h : Inv s live) (inst : Inst) (K : Nat) (hn : s.n ≤ K)
    (ho : inst.out ∈ live ∨ s.var inst.out = none)
    (hin : ∀ x ∈ inst.op.inputs, x ≠ inst.out ∧ (x ∈ live ∨ s.var x = none))
    (hK1 : DistinctLE (inst.out :: live) K) (hK2 : DistinctLE (liveBefore' live inst) K) :
    (step s inst).n ≤ K := by
  obtain ⟨s2, e, hn2, h2, hx⟩ := step_mid h inst ho hin
  rw [e]
  exact foldl_allocate_n_le _ K h2 (hn2 ▸ allocate_n_le h inst.out K hn ho hK1) hx hK2

/-- **C17**: if at every program point at most `K` values are alive — counting, right after an
    instruction, its own result — then the allocator creates at most `K` variables. -/
theorem run_n_le (K : Nat) : ∀ (ir : List Inst), WFs ir →
    (∀ pre inst suf, ir = pre ++ inst :: suf →
      DistinctLE (inst.out :: liveAt suf) K ∧ DistinctLE (liveAt (inst :: suf)) K) →
    (run ir).n ≤ K := by
  intro ir
  induction ir with
  | nil => intro _ _; exact Nat.zero_le K
  | cons inst suf ih =>
    intro hwf hK
    have hn := ih hwf.2.2 (fun pre i' s' e => hK (inst :: pre) i' s' (by rw [e, List.cons_append]))
    obtain ⟨k1, k2⟩ := hK [] inst suf rfl
    obtain ⟨ho, hin⟩ := wfs_fresh inst suf hwf
    rw [run_cons]
    exact step_n_le (run_inv suf hwf.2.2).1 inst K hn ho hin k1 k2

end P.Alloc

namespace AC.AllocX
open P.Alloc AC.PeakLive

structure Small (s : St) : Prop where
  avail_lt : ∀ w ∈ s.avail, w < s.n
  var_lt : ∀ i v, s.var i = some v → v < s.n

theorem small_allocate (s : St) (i : Nat) (h : Small s) : Small (s.allocate i) := by
  cases hv : s.var i with
  | some v => rw [allocate_of_some hv]; exact h
  | none =>
    obtain ⟨v, hvar, hc⟩ := allocate_none hv
    generalize s.allocate i = s' at hvar hc ⊢
    obtain ⟨hn, hv', hsub⟩ : s.n ≤ s'.n ∧ v < s'.n ∧ ∀ w ∈ s'.avail, w ∈ s.avail := by
      rcases hc with ⟨ha, hn⟩ | ⟨_, ha', rfl, hn⟩
      · exact ⟨Nat.le_of_eq hn.symm, hn ▸ h.avail_lt v (ha ▸ List.mem_append_right _ (List.mem_singleton_self v)),
          fun w hw => ha ▸ List.mem_append_left _ hw⟩
      · exact ⟨hn ▸ Nat.le_succ _, hn ▸ Nat.lt_succ_self _, fun w hw => absurd (ha' ▸ hw) List.not_mem_nil⟩
    refine ⟨fun w hw => Nat.lt_of_lt_of_le (h.avail_lt w (hsub w hw)) hn, fun j u hj => ?_⟩
    simp only [hvar] at hj
    split at hj
    · cases hj; exact hv'
    · exact Nat.lt_of_lt_of_le (h.var_lt j u hj) hn

theorem small_step (s : St) (inst : Inst) (h : Small s) : Small (step s inst) := by
  have h1 := small_allocate s inst.out h
  obtain ⟨v, hv⟩ := allocate_self s inst.out
  have h2 : Small ((s.allocate inst.out).free v) := ⟨fun w hw => by
    rcases List.mem_append.mp hw with hw | hw
    · exact h1.avail_lt w hw
    · cases List.mem_singleton.mp hw; exact h1.var_lt _ _ hv, h1.var_lt⟩
  simp only [step, hv, Option.getD_some]
  generalize (s.allocate inst.out).free v = s2 at h2
  induction inst.op.inputs generalizing s2 with
  | nil => exact h2
  | cons x r ih => exact ih _ (small_allocate s2 x h2)

theorem small_run : ∀ (ir : List Inst), Small (run ir) := by
  intro ir
  induction ir with
  | nil => exact ⟨nofun, nofun⟩
  | cons a r ih => rw [run_cons]; exact small_step _ a ih

/-- the temporaries are in bijection with variables, hence at most `n` -/
theorem tmap_length_le (ir : List Inst) : (buildA (regOf ir) (indexes ir)).length ≤ (run ir).n := by
  have hsub : buildA (regOf ir) (indexes ir) ⊆ List.range (run ir).n := by
    intro v hv
    obtain ⟨i, hi, hr⟩ := (mem_buildA _ _ v).mp hv
    obtain ⟨w, hw⟩ := run_var_some ir i ((mem_indexes ir i).mp hi)
    have := regOf_eq_t hr
    rw [hw] at this
    exact List.mem_range.mpr (this ▸ (small_run ir).var_lt i _ hw)
  simpa using (buildA_nodup (regOf ir) (indexes ir)).length_le_of_subset hsub

theorem mem_dedup (a : Nat) : ∀ (l : List Nat), a ∈ dedup l ↔ a ∈ l := by
  intro l
  induction l with
  | nil => exact Iff.rfl
  | cons b r ih =>
    unfold dedup
    split
    · rename_i hc
      have hb : b ∈ r := by simpa using hc
      rw [ih, List.mem_cons]
      exact ⟨Or.inr, fun h => h.elim (· ▸ hb) id⟩
    · simp [ih]

theorem mem_values (ir : List Inst) (j : Nat) (h : j = 0 ∨ j ∈ outs ir) : j ∈ values ir :=
  (mem_dedup j _).mpr (List.mem_cons.mpr h)

theorem live_not_out : ∀ (suf : List Inst), WFs suf → ∀ j ∈ liveAt suf, j ∉ outs suf := by
  intro suf
  induction suf with
  | nil => intro _ j hj; cases hj
  | cons a r ih =>
    intro ⟨_, hin, hr⟩ j hj hm
    rcases mem_liveAt_cons.mp hj, List.mem_cons.mp hm with ⟨hj | ⟨hj, hne⟩, h | h⟩
    · exact (hin j hj).1 h
    · exact (hin j hj).2 h
    · exact hne h
    · exact ih hr j hj h

theorem live_prefix : ∀ (pre suf : List Inst) (j : Nat), j ∈ liveAt suf →
    j ∈ liveAt (pre ++ suf) ∨ j ∈ outs pre := by
  intro pre
  induction pre with
  | nil => intro suf j h; exact Or.inl h
  | cons a p ih =>
    intro suf j h
    rcases ih suf j h with h | h
    · by_cases hja : j = a.out
      · exact Or.inr (hja ▸ List.mem_cons_self)
      · exact Or.inl (mem_liveAt_cons.mpr (Or.inr ⟨h, hja⟩))
    · exact Or.inr (List.mem_cons_of_mem _ h)

theorem no_early_reader : ∀ (pre : List Inst) (inst : Inst) (suf : List Inst),
    WFs (pre ++ inst :: suf) → ∀ i' ∈ pre ++ [inst], inst.out ∉ i'.op.inputs := by
  intro pre
  induction pre with
  | nil =>
    intro inst suf hw i' hi' hc
    cases List.mem_singleton.mp hi'
    exact (hw.2.1 _ hc).1 rfl
  | cons a p ih =>
    intro inst suf hw i' hi' hc
    rcases List.mem_cons.mp hi' with rfl | hi'
    · exact (hw.2.1 _ hc).2 (List.mem_map_of_mem (List.mem_append_right p List.mem_cons_self))
    · exact ih inst suf hw.2.2 i' hi' hc

theorem allUsed_spec (ir : List Inst) (h : allUsedB ir = true) :
    ∀ inst ∈ ir, inst.out = lastOutB ir ∨ ∃ j ∈ ir, inst.out ∈ j.op.inputs := by
  intro inst hi
  simp only [allUsedB, List.all_eq_true, Bool.or_eq_true, beq_iff_eq, List.any_eq_true,
    List.contains_iff_mem] at h
  exact h inst hi

theorem distinctLE_liveCount (ir : List Inst) (p : Nat) (L : List Nat)
    (h : ∀ x ∈ L, x ∈ values ir ∧ liveAtPoint ir p x = true) : DistinctLE L (liveCount ir p) :=
  fun _ hnd hD => hnd.length_le_of_subset fun x hx => List.mem_filter.mpr (h x (hD x hx))

theorem foldl_max_ge (f : Nat → Nat) : ∀ (l : List Nat) (m0 : Nat),
    m0 ≤ l.foldl (fun m p => max m (f p)) m0 ∧ ∀ p ∈ l, f p ≤ l.foldl (fun m p => max m (f p)) m0 := by
  intro l
  induction l with
  | nil => intro m0; exact ⟨Nat.le_refl _, nofun⟩
  | cons a r ih =>
    intro m0
    obtain ⟨h1, h2⟩ := ih (max m0 (f a))
    refine ⟨Nat.le_trans (Nat.le_max_left _ _) h1, fun p hp => ?_⟩
    rcases List.mem_cons.mp hp with rfl | hp
    · exact Nat.le_trans (Nat.le_max_right _ _) h1
    · exact h2 p hp

theorem liveCount_le_peak (ir : List Inst) (p : Nat) (hp : p ≤ ir.length) : liveCount ir p ≤ peakLive ir :=
  (foldl_max_ge (liveCount ir) _ 0).2 p (List.mem_range.mpr (Nat.lt_succ_of_le hp))

theorem liveAtPoint_append (p s : List Inst) (x : Nat) :
    liveAtPoint (p ++ s) p.length x = true ↔
      (x = 0 ∨ x ∈ outs p) ∧ ((∃ j ∈ s, x ∈ j.op.inputs) ∨ x = lastOutB (p ++ s)) := by
  simp only [liveAtPoint, definedBefore, neededFrom, List.take_left' rfl, List.drop_left' rfl, Bool.and_eq_true,
    Bool.or_eq_true, beq_iff_eq, List.any_eq_true, List.contains_iff_mem, outs, List.mem_map]

theorem live_at_point (ir : List Inst) (hWF : WF ir) (p s : List Inst) (e : ir = p ++ s)
    (x : Nat) (hx : x ∈ liveAt s) : x ∈ values ir ∧ liveAtPoint ir p.length x = true := by
  subst e
  have hd : x = 0 ∨ x ∈ outs p := (live_prefix p s x hx).imp_left (hWF.closed x)
  refine ⟨mem_values _ x (hd.imp_right fun h => ?_), (liveAtPoint_append p s x).mpr ⟨hd, Or.inl (live_reader s x hx)⟩⟩
  rw [outs, List.map_append]; exact List.mem_append_left _ h

/-- the liveness hypothesis of `run_n_le`, with the independent `peakLive` as the bound -/
theorem distinctLE_peak (ir : List Inst) (hWF : WF ir) (hu : allUsedB ir = true)
    (pre : List Inst) (inst : Inst) (suf : List Inst) (e : ir = pre ++ inst :: suf) :
    DistinctLE (inst.out :: liveAt suf) (peakLive ir) ∧ DistinctLE (liveAt (inst :: suf)) (peakLive ir) := by
  have e1 : ir = (pre ++ [inst]) ++ suf := by rw [e, List.append_assoc]; rfl
  have hlen : (pre ++ [inst]).length ≤ ir.length := by rw [e1]; simp
  constructor
  · have := distinctLE_liveCount ir (pre ++ [inst]).length (inst.out :: liveAt suf) (by
      intro x hx
      rcases List.mem_cons.mp hx with rfl | hx
      · -- the result of `inst`: defined by now, and read later because no earlier instruction reads it
        have hmem : inst ∈ ir := e ▸ List.mem_append_right _ List.mem_cons_self
        refine ⟨mem_values ir _ (Or.inr (List.mem_map_of_mem hmem)), ?_⟩
        rw [e1, liveAtPoint_append]
        refine ⟨Or.inr (List.mem_map_of_mem (List.mem_append_right _ (List.mem_singleton_self inst))), ?_⟩
        rcases allUsed_spec ir hu inst hmem with h | ⟨j, hj, hr⟩
        · exact Or.inr (e1 ▸ h)
        · rcases List.mem_append.mp (e1 ▸ hj) with h | h
          · exact absurd hr (no_early_reader pre inst suf (e ▸ hWF.wfs) j h)
          · exact Or.inl ⟨j, h, hr⟩
      · exact live_at_point ir hWF _ suf e1 x hx)
    exact fun D hnd hD => Nat.le_trans (this D hnd hD) (liveCount_le_peak ir _ hlen)
  · have := distinctLE_liveCount ir pre.length _ (live_at_point ir hWF pre (inst :: suf) e)
    refine fun D hnd hD => Nat.le_trans (this D hnd hD) (liveCount_le_peak ir _ (Nat.le_trans ?_ hlen))
    rw [List.length_append]; exact Nat.le_add_right _ _

end AC.AllocX
