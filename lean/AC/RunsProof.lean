import AC.RunsX
/-! Bridge for C11: the executable `runsChainX` (fold of `runsStep` over `Chain.Program`) is an
    instance of the construction proved correct in `runs_ok`. -/
namespace P

def toStep (lc : Chain) (op : Op) : Nat × Nat :=
  ((min (at' lc op.1) (at' lc op.2)).toNat, (max (at' lc op.1) (at' lc op.2)).toNat)

theorem runsStep_eq (lc : Chain) (st : RS) (op : Op) :
    runsStep lc st op = runsStepN st (toStep lc op).1 (toStep lc op).2 := rfl

theorem runsChain_eq (lc : Chain) (p : List Op) :
    runsChain lc p = (runSteps ⟨[1], fun _ => 0⟩ (p.map (toStep lc))).c := by
  unfold runsChain runSteps
  rw [List.foldl_map]
  rfl

/-- steps whose operands are among the lengths reached before them, and whose sums are all new,
    are valid -/
theorem validSteps_of_fresh : ∀ (steps : List (Nat × Nat)) (L : List Nat), (lensAfter L steps).Nodup →
    (∀ k s, steps[k]? = some s → s.1 ∈ (lensAfter L steps).take (L.length + k) ∧
      s.2 ∈ (lensAfter L steps).take (L.length + k)) →
    ValidSteps L steps
  | [], _, _, _ => trivial
  | (la, lb) :: r, L, hnd, hmem => by
    have h0 := hmem 0 (la, lb) rfl
    rw [lensAfter_cons] at hnd hmem h0
    have hL : (lensAfter (L ++ [la + lb]) r).take L.length = L := by
      rw [lensAfter, List.append_assoc, List.take_left]
    rw [Nat.add_zero, hL] at h0
    refine ⟨h0.1, h0.2, fun hin => ?_, validSteps_of_fresh r _ hnd fun k s hk => ?_⟩
    · exact (List.nodup_append.1 (List.nodup_append.1 hnd).1).2.2 _ hin _ (List.mem_singleton_self _) rfl
    · rw [List.length_append, List.length_singleton, Nat.add_assoc, Nat.add_comm 1 k]
      exact hmem (k + 1) s hk

theorem toStep_cases (lc : Chain) (o : Op) :
    toStep lc o = ((at' lc o.1).toNat, (at' lc o.2).toNat) ∨
    toStep lc o = ((at' lc o.2).toNat, (at' lc o.1).toNat) := by
  unfold toStep
  rcases Int.le_total (at' lc o.1) (at' lc o.2) with h | h
  · left; rw [Int.min_eq_left h, Int.max_eq_right h]
  · right; rw [Int.min_eq_right h, Int.max_eq_left h]

theorem steps_valid (lc : Chain) (hc : IsChain lc) (p : List Op) (hp : program lc = .ok p) :
    ValidSteps [1] (p.map (toStep lc)) ∧ lensAfter [1] (p.map (toStep lc)) = lc.map Int.toNat := by
  have hlen := (program_get lc p hp).1
  have hpos := isChain_pos lc hc
  -- what one step contributes, in terms of the chain of lengths
  have hstep : ∀ k o, p[k]? = some o →
      (toStep lc o).1 + (toStep lc o).2 = (at' lc (k + 1)).toNat ∧
      ∀ N : List Nat, (∀ t, t < k + 1 → (at' lc t).toNat ∈ N) → (toStep lc o).1 ∈ N ∧ (toStep lc o).2 ∈ N := by
    rintro k ⟨i, j⟩ ho
    obtain ⟨hk1, hij, hjk, hsum⟩ := program_op lc p hp k _ ho
    have hik := Nat.lt_of_le_of_lt hij hjk
    have hi0 : 0 ≤ at' lc i := Int.le_trans (by decide) (hpos i (Nat.lt_trans hik hk1))
    have hj0 : 0 ≤ at' lc j := Int.le_trans (by decide) (hpos j (Nat.lt_trans hjk hk1))
    have hs : (at' lc i).toNat + (at' lc j).toNat = (at' lc (k + 1)).toNat := by
      rw [← hsum, Int.toNat_add hi0 hj0]
    rcases toStep_cases lc (i, j) with e | e <;> rw [e]
    · exact ⟨hs, fun N hN => ⟨hN i hik, hN j hjk⟩⟩
    · exact ⟨(Nat.add_comm _ _).trans hs, fun N hN => ⟨hN j hjk, hN i hik⟩⟩
  have hlens : lensAfter [1] (p.map (toStep lc)) = lc.map Int.toNat := by
    rw [lensAfter, List.singleton_append, List.map_map]
    apply List.ext_getElem (by simp only [List.length_cons, List.length_map, hlen])
    intro k h1 h2
    cases k with
    | zero => simp only [List.getElem_cons_zero, List.getElem_map, ← at'_eq_getElem lc 0 (hlen ▸ Nat.succ_pos _), hc.2.1, Int.toNat_one]
    | succ k =>
      have hk : k < p.length := by simpa only [List.length_cons, List.length_map, Nat.add_lt_add_iff_right] using h1
      simp only [List.getElem_cons_succ, List.getElem_map, Function.comp_apply, (hstep k _ (List.getElem?_eq_getElem hk)).1,
        at'_eq_getElem lc (k + 1) (hlen ▸ Nat.succ_lt_succ hk)]
  refine ⟨validSteps_of_fresh _ _ ?_ ?_, hlens⟩
  · rw [hlens]
    refine List.pairwise_map.2 (hc.2.2.2.1.imp_of_mem fun {a b} ha hb hne e => hne ?_)
    have ha0 : 0 ≤ a := Int.le_trans (by decide) (isChain_mem_pos lc hc a ha)
    have hb0 : 0 ≤ b := Int.le_trans (by decide) (isChain_mem_pos lc hc b hb)
    rw [← Int.toNat_of_nonneg ha0, ← Int.toNat_of_nonneg hb0, e]
  · intro k s hs
    rw [List.getElem?_map] at hs
    obtain ⟨o, ho, rfl⟩ := Option.map_eq_some_iff.1 hs
    rw [hlens]
    refine (hstep k o ho).2 _ fun t ht => ?_
    rw [← List.map_take]
    refine List.mem_map_of_mem ?_
    rw [← at'_take lc (1 + k) t (Nat.add_comm k 1 ▸ ht)]
    have hk := (List.getElem?_eq_some_iff.1 ho).1
    exact at'_mem_of_lt _ t (by rw [List.length_take, List.length_singleton]; omega)

theorem runsChainX_rinv (lc : Chain) (hc : IsChain lc) (c : Chain) (h : runsChainX lc = .ok c) :
    ∃ st : RS, st.c = c ∧ RInv (lc.map Int.toNat) st := by
  unfold runsChainX at h
  split at h
  · cases h
  · rename_i p hp
    split at h
    · cases h
      obtain ⟨hv, hl⟩ := steps_valid lc hc p hp
      exact ⟨_, (runsChain_eq lc p).symm, hl ▸ runSteps_inv _ [1] _ rinv_init hv⟩
    · cases h

/-- **C11 over the executable model** -/
theorem runsChainX_ok (lc : Chain) (hc : IsChain lc) (hsmall : ∀ l ∈ lc, l < 2 ^ 64) :
    ∃ c, runsChainX lc = .ok c ∧ IsChain c ∧ ∀ l ∈ lc, onesI l.toNat ∈ c := by
  obtain ⟨p, hp⟩ := (validate_iff lc).2 hc
  have hall : (p.all fun o => isUint64 (at' lc o.1) && isUint64 (at' lc o.2)) = true := by
    rw [List.all_eq_true]
    rintro ⟨i, j⟩ ho
    obtain ⟨k, hk⟩ := List.mem_iff_getElem?.1 ho
    obtain ⟨hk1, hij, hjk, _⟩ := program_op lc p hp k _ hk
    have hj : j < lc.length := Nat.lt_trans hjk hk1
    have hi : i < lc.length := Nat.lt_of_le_of_lt hij hj
    simp only [isUint64, Bool.and_eq_true, decide_eq_true_eq]
    exact ⟨⟨Int.le_trans (by decide) (isChain_pos lc hc i hi), hsmall _ (at'_mem_of_lt lc i hi)⟩,
      Int.le_trans (by decide) (isChain_pos lc hc j hj), hsmall _ (at'_mem_of_lt lc j hj)⟩
  have hrun : runsChainX lc = .ok (runsChain lc p) := by
    unfold runsChainX; rw [hp]; simp only [hall, if_true]
  obtain ⟨st, hst, hI⟩ := runsChainX_rinv lc hc _ hrun
  refine ⟨_, hrun, hst ▸ hI.chain, fun l hl => hst ▸ (hI.mem _).2 ⟨_, 0, List.mem_map_of_mem hl, ?_⟩⟩
  exact ⟨Nat.zero_le _, (Int.mul_one _).symm⟩

end P
