import AC.MetavarsXQuote
import AC.OrderedMap
/-! `readModel (writeModel f) = f` under the shape conditions the reader needs, the ordered-map laws of
`File.Get/Add/Set`, and the alignment column of `metavars.Write`. -/
namespace P.MetaX

theorem stripPrefix_append (p l : List Nat) : stripPrefix p (p ++ l) = some l := by
  induction p with
  | nil => cases l <;> rfl
  | cons a p ih => simp [stripPrefix, ih]

/-- shape conditions under which the model reads back what it wrote (weaker than `wfProp`) -/
structure ShapeProp (p : BProp) : Prop where
  name_ne : p.name ≠ []
  name_chars : ∀ x ∈ p.name, isIdChar x = true
  doc_nl : ∀ x ∈ p.doc, x ≠ 10
  value_bytes : ∀ b ∈ p.value, b < 256

theorem writeSpec_head (isPrint : Nat → Bool) (w : Nat) (p : BProp) : ∃ r, writeSpec isPrint w p = 9 :: r := by
  unfold writeSpec
  by_cases h : p.doc = []
  · rw [if_pos h]; exact ⟨_, rfl⟩
  · rw [if_neg h]; exact ⟨_, rfl⟩

theorem isIdChar_ne_slash (x : Nat) (h : isIdChar x = true) : x ≠ 47 := by
  intro e; subst e; revert h; decide

theorem readDoc_line (doc rest : List Nat) (h : ∀ x ∈ doc, x ≠ 10) :
    readDoc ([9, 47, 47, 32] ++ (doc ++ 10 :: rest)) = some (doc, rest) := by
  have hall : ∀ x ∈ doc, (x != 10) = true := fun x hx => by simpa using h x hx
  rw [readDoc, stripPrefix_append]
  simp only
  rw [List.dropWhile_append_of_pos hall, List.dropWhile_cons_of_neg (by decide),
    List.takeWhile_append_of_pos hall, List.takeWhile_cons_of_neg (by decide), List.append_nil]

theorem readDoc_write (p : BProp) (hp : ShapeProp p) (rest : List Nat) :
    readDoc ((if p.doc = [] then [] else [9, 47, 47, 32] ++ p.doc ++ [10]) ++ (9 :: (p.name ++ rest)))
      = some (p.doc, 9 :: (p.name ++ rest)) := by
  by_cases h : p.doc = []
  · -- no doc line: the name after the tab cannot begin with `/`
    obtain ⟨c, nt, hn⟩ := List.exists_cons_of_ne_nil hp.name_ne
    have hc : 47 ≠ c := fun e => isIdChar_ne_slash c (hp.name_chars c (hn ▸ List.mem_cons_self)) e.symm
    rw [if_pos h, h, hn]
    simp only [readDoc, List.nil_append, List.cons_append, stripPrefix, if_true, if_neg hc]
  · rw [if_neg h, List.append_assoc, List.append_assoc]
    exact readDoc_line p.doc _ hp.doc_nl

/-- `readSpec` field by field: after the doc line come a tab, the name, blanks, `= "`, the quoted value and a newline -/
theorem readSpec_fields {l doc name X v l5 : List Nat} (k : Nat)
    (hdoc : readDoc l = some (doc, 9 :: (name ++ (List.replicate k 32 ++ 61 :: 32 :: 34 :: X))))
    (hne : name ≠ []) (hname : ∀ x ∈ name, isIdChar x = true) (hv : unqR X.length X = some (v, 10 :: l5)) :
    readSpec l = some ({ name := name, doc := doc, value := v }, l5) := by
  -- the text after the name starts with a blank or `=`
  obtain ⟨c, b, hc, hcb⟩ : ∃ c b, isIdChar c = false ∧ List.replicate k 32 ++ 61 :: 32 :: 34 :: X = c :: b := by
    cases k with
    | zero => exact ⟨61, _, by decide, rfl⟩
    | succ k => exact ⟨32, _, by decide, rfl⟩
  have hc' : ¬ isIdChar c = true := by simp [hc]
  have htake : (name ++ c :: b).takeWhile isIdChar = name := by
    rw [List.takeWhile_append_of_pos hname, List.takeWhile_cons_of_neg hc', List.append_nil]
  have hdrop : ((name ++ c :: b).dropWhile isIdChar).dropWhile (· == 32) = 61 :: 32 :: 34 :: X := by
    rw [List.dropWhile_append_of_pos hname, List.dropWhile_cons_of_neg hc', ← hcb,
      List.dropWhile_append_of_pos fun x hx => by simp [List.eq_of_mem_replicate hx],
      List.dropWhile_cons_of_neg (by decide)]
  rw [hcb] at hdoc
  simp only [readSpec, hdoc, htake, hdrop, stripPrefix, hv, if_true, if_neg hne]

theorem writeSpec_append (isPrint : Nat → Bool) (w : Nat) (p : BProp) (t : List Nat) :
    writeSpec isPrint w p ++ t = (if p.doc = [] then [] else [9, 47, 47, 32] ++ p.doc ++ [10]) ++
      9 :: (p.name ++ (List.replicate (w + 1 - runeCount p.name) 32 ++
        61 :: 32 :: 34 :: (bodyF isPrint p.value.length p.value ++ 34 :: 10 :: t))) := by
  simp only [writeSpec, quote, List.append_assoc, List.cons_append, List.nil_append]

theorem readSpec_writeSpec (isPrint : Nat → Bool) (w : Nat) (p : BProp) (hp : ShapeProp p) (t : List Nat) :
    readSpec (writeSpec isPrint w p ++ t) = some (p, t) := by
  rw [writeSpec_append]
  exact readSpec_fields _ (readDoc_write p hp _) hp.name_ne hp.name_chars
    (unqR_bodyF isPrint p.value.length p.value (Nat.le_refl _) hp.value_bytes _ (10 :: t) (by simp))

theorem writeSpecs_cons (isPrint : Nat → Bool) (wp : Nat × BProp) (l : List (Nat × BProp)) :
    writeSpecs isPrint (wp :: l) = writeSpec isPrint wp.1 wp.2 ++ writeSpecs isPrint l := by
  simp [writeSpecs]

theorem length_le_writeSpecs (isPrint : Nat → Bool) (l : List (Nat × BProp)) : l.length ≤ (writeSpecs isPrint l).length := by
  induction l with
  | nil => simp
  | cons wp l ih =>
    rw [writeSpecs_cons]
    obtain ⟨r, hr⟩ := writeSpec_head isPrint wp.1 wp.2
    -- each spec is at least its leading tab
    rw [hr, List.cons_append, List.length_cons, List.length_cons, List.length_append]
    exact Nat.succ_le_succ (Nat.le_trans ih (Nat.le_add_left ..))

theorem readSpecs_writeSpecs (isPrint : Nat → Bool) : ∀ (l : List (Nat × BProp)), (∀ wp ∈ l, ShapeProp wp.2) →
    ∀ m, l.length < m → readSpecs m (writeSpecs isPrint l ++ [41, 10]) = some (l.map (·.2)) := by
  intro l
  induction l with
  | nil =>
    intro _ m hm
    cases m with
    | zero => omega
    | succ m => simp [writeSpecs, readSpecs]
  | cons wp l ih =>
    intro h m hm
    cases m with
    | zero => omega
    | succ m =>
      rw [writeSpecs_cons, List.append_assoc]
      obtain ⟨r, hr⟩ := writeSpec_head isPrint wp.1 wp.2
      have hne : writeSpec isPrint wp.1 wp.2 ++ (writeSpecs isPrint l ++ [41, 10]) ≠ [41, 10] := by
        rw [hr]; simp
      unfold readSpecs
      rw [if_neg hne, readSpec_writeSpec isPrint wp.1 wp.2 (h wp List.mem_cons_self)]
      simp only
      rw [ih (fun x hx => h x (List.mem_cons_of_mem _ hx)) m (by simpa using hm)]
      simp

theorem sections_flatten : ∀ l : List BProp, (sections l).flatten = l := by
  intro l
  induction l with
  | nil => rfl
  | cons p rest ih =>
    -- in every branch of `sections` the new head `p` is the first element of the first section
    unfold sections
    cases hs : sections rest with
    | nil =>
      rw [hs] at ih
      exact congrArg (p :: ·) ih
    | cons s ss =>
      rw [hs] at ih
      cases s with
      | nil => exact congrArg (p :: ·) ih
      | cons q s' =>
        dsimp only
        by_cases hq : q.doc = []
        · rw [if_pos hq]; exact congrArg (p :: ·) ih
        · rw [if_neg hq]; exact congrArg (p :: ·) ih

theorem annot_snd (l : List BProp) : (annot l).map (·.2) = l := by
  have : ∀ ss : List (List BProp),
      (ss.flatMap fun s => s.map fun p => (secWidth s, p)).map (·.2) = ss.flatten := by
    intro ss
    induction ss with
    | nil => rfl
    | cons s ss ih =>
      simp only [List.flatMap_cons, List.map_append, ih, List.flatten_cons, List.map_map]
      congr 1
      induction s with
      | nil => rfl
      | cons a s _ => simp [Function.comp_def]
  unfold annot
  rw [this, sections_flatten]

/-! Alignment: the `=` column of a section is one past its longest name. -/

theorem le_foldl_max {α} (g : α → Nat) : ∀ (s : List α) (w0 : Nat),
    w0 ≤ s.foldl (fun w p => max w (g p)) w0 ∧ ∀ p ∈ s, g p ≤ s.foldl (fun w p => max w (g p)) w0 := by
  intro s
  induction s with
  | nil => intro w0; simp
  | cons a s ih =>
    intro w0
    simp only [List.foldl_cons]
    obtain ⟨h1, h2⟩ := ih (max w0 (g a))
    refine ⟨Nat.le_trans (Nat.le_max_left ..) h1, fun p hp => ?_⟩
    rcases List.mem_cons.1 hp with rfl | hp
    · exact Nat.le_trans (Nat.le_max_right ..) h1
    · exact h2 p hp

theorem annot_width (l : List BProp) : ∀ wp ∈ annot l, runeCount wp.2.name ≤ wp.1 := by
  intro wp hwp
  unfold annot at hwp
  simp only [List.mem_flatMap, List.mem_map] at hwp
  obtain ⟨s, _, p, hp, rfl⟩ := hwp
  exact (le_foldl_max (fun p => runeCount p.name) s 0).2 p hp

structure ShapeFile (f : BFile) : Prop where
  pkg_ne : f.pkg ≠ []
  pkg_chars : ∀ x ∈ f.pkg, isIdChar x = true
  props : ∀ p ∈ f.props, ShapeProp p

theorem readModel_writeModel (isPrint : Nat → Bool) (f : BFile) (hf : ShapeFile f) :
    readModel (writeModel isPrint f) = some f := by
  obtain ⟨pkg, props⟩ := f
  have h1 := hf.pkg_ne
  have h2 := hf.pkg_chars
  have h3 := hf.props
  simp only at h1 h2 h3
  unfold writeModel readModel
  rw [stripPrefix_append]
  simp only
  have hk : ∀ X : List Nat, kwVar ++ X = 10 :: ([10, 118, 97, 114, 32, 40] ++ X) := fun X => rfl
  rw [hk, List.takeWhile_append_of_pos h2, List.takeWhile_cons_of_neg (by decide), List.append_nil,
    List.dropWhile_append_of_pos h2, List.dropWhile_cons_of_neg (by decide), if_neg h1, ← hk, stripPrefix_append]
  simp only
  by_cases hp : props = []
  · subst hp; rfl
  · rw [if_neg hp]
    have hne : (10 :: (writeSpecs isPrint (annot props) ++ [41, 10])) ≠ [41, 10] := by simp
    rw [if_neg hne]
    simp only [if_true]
    have hshape : ∀ wp ∈ annot props, ShapeProp wp.2 := by
      intro wp hwp
      apply h3
      have : wp.2 ∈ (annot props).map (·.2) := List.mem_map_of_mem hwp
      rwa [annot_snd] at this
    rw [readSpecs_writeSpecs isPrint (annot props) hshape _
      (Nat.lt_succ_of_le (Nat.le_trans (length_le_writeSpecs isPrint _) (List.length_append ▸ Nat.le_add_right ..))),
      annot_snd]

theorem isIdStart_eq (c : Nat) : isIdStart c = (isIdStartA c || decide (0x80 ≤ c)) := rfl

theorem isIdChar_of_A (x : Nat) (h : isIdCharA x = true) : isIdChar x = true := by
  rw [isIdCharA, Bool.or_eq_true] at h
  rw [isIdChar, isIdStart_eq, Bool.or_eq_true, Bool.or_eq_true]
  exact h.imp_left Or.inl

theorem isName_shape (l : List Nat) (h : isName l = true) : l ≠ [] ∧ ∀ x ∈ l, isIdChar x = true := by
  unfold isName at h
  simp only [Bool.and_eq_true] at h
  cases l with
  | nil => simp [isIdent] at h
  | cons c t =>
    refine ⟨by simp, ?_⟩
    have hi := h.1
    simp only [isIdent, Bool.and_eq_true, List.all_eq_true] at hi
    intro x hx
    rcases List.mem_cons.1 hx with rfl | hx
    · exact isIdChar_of_A _ (by simp only [isIdCharA, hi.1, Bool.true_or])
    · exact isIdChar_of_A _ (hi.2 x hx)

theorem wfProp_shape (p : BProp) (h : wfProp p = true) : ShapeProp p := by
  unfold wfProp at h
  simp only [Bool.and_eq_true] at h
  obtain ⟨⟨hn, hd⟩, hv⟩ := h
  have hn' := isName_shape _ hn
  refine ⟨hn'.1, hn'.2, ?_, ?_⟩
  · intro x hx
    unfold isDoc at hd
    simp only [Bool.and_eq_true, List.all_eq_true, decide_eq_true_eq] at hd
    have := hd.1.1 x hx
    omega
  · intro b hb
    simpa using (List.all_eq_true.1 hv) b hb

theorem wfFile_shape (f : BFile) (h : WFFile f) : ShapeFile f := by
  unfold WFFile wfFile at h
  simp only [Bool.and_eq_true, List.all_eq_true] at h
  have hn := isName_shape _ h.1
  exact ⟨hn.1, hn.2, fun p hp => wfProp_shape p (h.2 p hp)⟩

/-! The laws of `File.Get/Add/Set` are those of `P.OMap` at the record `BProp` keyed by `name`:
`get` is `OMap.get BProp.name BProp.value` by definition (the hypotheses about `get` below are passed on as they
are), `set` and `add` by `set_eq`, `add_eq`. -/

theorem set_eq (f : List BProp) (n v : List Nat) :
    set f n v = OMap.set BProp.name (fun p v => { p with value := v }) f n v := by
  induction f with
  | nil => rfl
  | cons p r ih => simp only [set, OMap.set, ih]

theorem add_eq (f : List BProp) (p : BProp) : add f p = OMap.add BProp.name f p := by
  unfold add OMap.add
  cases f.find? (·.name == p.name) <;> rfl

theorem add_existing (f : List BProp) (p : BProp) (h : get f p.name ≠ none) : ∃ e, add f p = .error e :=
  add_eq f p ▸ OMap.add_existing BProp.name BProp.value f p h

theorem add_new (f : List BProp) (p : BProp) (h : get f p.name = none) : add f p = .ok (f ++ [p]) :=
  add_eq f p ▸ OMap.add_new BProp.name BProp.value f p h

theorem get_add_same (f : List BProp) (p : BProp) (h : get f p.name = none) :
    get (f ++ [p]) p.name = some p.value :=
  OMap.get_add_same BProp.name BProp.value f p h

theorem get_add_other (f : List BProp) (p : BProp) (n : List Nat) (hn : n ≠ p.name) :
    get (f ++ [p]) n = get f n :=
  OMap.get_add_other BProp.name BProp.value f p n hn

theorem set_unknown : ∀ (f : List BProp) (n v : List Nat), get f n = none → set f n v = none := by
  intro f n v h
  rw [set_eq]
  exact OMap.set_unknown BProp.name BProp.value _ f n v h

theorem set_known (f : List BProp) (n v : List Nat) (h : get f n ≠ none) : ∃ f', set f n v = some f' := by
  rw [set_eq]
  exact OMap.set_known BProp.name BProp.value _ f n v h

theorem set_get : ∀ (f : List BProp) (n v : List Nat) (f' : List BProp), set f n v = some f' →
    get f' n = some v ∧ (∀ m, m ≠ n → get f' m = get f m) ∧ f'.map (·.name) = f.map (·.name)
      ∧ f'.map (·.doc) = f.map (·.doc) := by
  intro f n v f' h
  rw [set_eq] at h
  obtain ⟨h1, h2, h3⟩ := OMap.set_get BProp.name BProp.value (fun p v => { p with value := v }) (fun _ _ => rfl) (fun _ _ => rfl) f n v f' h
  exact ⟨h1, h2, h3 _ fun _ _ => rfl, h3 _ fun _ _ => rfl⟩

end P.MetaX
