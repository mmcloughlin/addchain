import AC.DictAlg
/-! Bridge for C01: the executable, list-based `primitivePre` (model of `dict.primitive`) is an
    instance of the abstract construction proved correct in `P.Prim.primitive_ok`. -/
namespace P.DA
open P

theorem idxOf_spec (c : List Nat) (d : Nat) (h : d ∈ c) :
    idxOf c d < c.length ∧ c.getD (idxOf c d) 0 = d := by
  unfold idxOf
  obtain ⟨i, hi, hci⟩ := List.getElem_of_mem h
  have hmem : i ∈ (List.range c.length).filter fun i => c.getD i 0 == d :=
    List.mem_filter.2 ⟨List.mem_range.2 hi, by simp [List.getD_eq_getElem?_getD, List.getElem?_eq_getElem hi, hci]⟩
  cases hl : ((List.range c.length).filter fun i => c.getD i 0 == d).getLast? with
  | none => rw [List.getLast?_eq_none_iff.1 hl] at hmem; cases hmem
  | some k =>
    obtain ⟨hk1, hk2⟩ := List.mem_filter.1 (List.mem_of_getLast? hl)
    exact ⟨List.mem_range.1 hk1, by simpa using hk2⟩

theorem incrL_length : ∀ (l : List Nat) (k : Nat), (incrL l k).length = l.length
  | [], _ => rfl
  | _ :: _, 0 => rfl
  | _ :: r, k+1 => congrArg (· + 1) (incrL_length r k)

theorem incrL_getD : ∀ (l : List Nat) (k i : Nat), i < l.length →
    (incrL l k).getD i 0 = l.getD i 0 + if k == i then 1 else 0
  | _ :: _, 0, 0, _ => rfl
  | _ :: _, 0, _ + 1, _ => rfl
  | _ :: _, _ + 1, 0, _ => rfl
  | _ :: r, k + 1, i + 1, h => by
    simpa only [incrL, List.getD_cons_succ, Nat.add_right_cancel_iff, beq_iff_eq] using incrL_getD r k i (Nat.lt_of_succ_lt_succ h)

/-- a fold whose step keeps the length and adds one to entry `i` exactly for the items `o` with `c o i`
    counts those items -/
theorem foldl_count {β} (step : List Nat → β → List Nat) (c : β → Nat → Bool)
    (hlen : ∀ rs o, (step rs o).length = rs.length)
    (hget : ∀ rs o i, i < rs.length → (step rs o).getD i 0 = rs.getD i 0 + if c o i then 1 else 0) :
    ∀ (l : List β) (rs : List Nat), (l.foldl step rs).length = rs.length ∧
      ∀ i, i < rs.length → (l.foldl step rs).getD i 0 = rs.getD i 0 + l.countP (c · i) := by
  intro l
  induction l with
  | nil => intro rs; exact ⟨rfl, fun i _ => rfl⟩
  | cons o r ih =>
    intro rs
    obtain ⟨h1, h2⟩ := ih (step rs o)
    rw [hlen] at h1 h2
    refine ⟨h1, fun i hi => ?_⟩
    rw [List.foldl_cons, h2 i hi, hget rs o i hi, List.countP_cons, Nat.add_assoc, Nat.add_comm (List.countP _ r)]

/-- the step of `Program.ReadCounts` -/
def rdStep (rs : List Nat) (o : Op) : List Nat :=
  if o.1 == o.2 then incrL rs o.1 else incrL (incrL rs o.1) o.2

theorem rdStep_length (rs : List Nat) (o : Op) : (rdStep rs o).length = rs.length := by
  unfold rdStep; split <;> simp only [incrL_length]

theorem rdStep_getD (rs : List Nat) (o : Op) (i : Nat) (h : i < rs.length) :
    (rdStep rs o).getD i 0 = rs.getD i 0 + if (o.1 == i || o.2 == i) then 1 else 0 := by
  unfold rdStep
  split
  · next heq =>
    rw [incrL_getD _ _ _ h, ← beq_iff_eq.1 heq, Bool.or_self]
  · next hne =>
    rw [incrL_getD _ _ _ (by rw [incrL_length]; exact h), incrL_getD _ _ _ h, Nat.add_assoc]
    by_cases e1 : o.1 = i
    · have e2 : o.2 ≠ i := fun e => hne (beq_iff_eq.2 (e1.trans e.symm))
      rw [beq_iff_eq.2 e1, beq_eq_false_iff_ne.2 e2]; rfl
    · rw [beq_eq_false_iff_ne.2 e1, Bool.false_or]; exact congrArg _ (Nat.zero_add _)

theorem readsL_spec (p : List Op) (terms : List (Nat × Nat)) :
    (readsL p (terms.map (·.1))).length = p.length + 1 ∧
    ∀ i, i ≤ p.length → (readsL p (terms.map (·.1))).getD i 0 = P.Prim.reads p terms i := by
  obtain ⟨a1, a2⟩ := foldl_count rdStep (fun o i => o.1 == i || o.2 == i) rdStep_length rdStep_getD p
    (List.replicate (p.length + 1) 0)
  obtain ⟨b1, b2⟩ := foldl_count incrL (fun k i => k == i) incrL_length incrL_getD (terms.map (·.1))
    (p.foldl rdStep (List.replicate (p.length + 1) 0))
  rw [a1] at b1 b2
  rw [List.length_replicate] at a2 b1 b2
  refine ⟨b1, fun i hi => ?_⟩
  have hi' := Nat.lt_succ_of_le hi
  show ((terms.map (·.1)).foldl incrL (p.foldl rdStep (List.replicate (p.length + 1) 0))).getD i 0 = _
  rw [b2 i hi', a2 i hi', List.countP_map, P.Prim.reads, List.getD_eq_getElem?_getD, List.getElem?_replicate,
    if_pos hi', Option.getD_some, Nat.zero_add]
  rfl

/-- the bits of a mask that collects, for the `k` with `c k`, bit `k` and the bits of `m k` -/
theorem maskFold (c : Nat → Prop) [DecidablePred c] (m : Nat → Nat) (i : Nat) : ∀ (l : List Nat) (a : Nat),
    (l.foldl (fun acc k => if c k then acc ||| 2 ^ k ||| m k else acc) a).testBit i =
    (a.testBit i || l.any fun k => decide (c k) && (decide (k = i) || (m k).testBit i)) := by
  intro l
  induction l with
  | nil => intro a; simp
  | cons k r ih =>
    intro a
    rw [List.foldl_cons, ih, List.any_cons]
    split
    · next h =>
      rw [decide_eq_true h, Bool.true_and, Nat.testBit_or, Nat.testBit_or, Nat.testBit_two_pow]
      simp only [Bool.or_assoc]
    · next h => rw [decide_eq_false h, Bool.false_and, Bool.false_or]

theorem primMask_spec (p : List Op) (terms : List (Nat × Nat)) (reads : List Nat)
    (hp : P.Prim.InRangeP p 0) (hlen : reads.length = p.length + 1)
    (hreads : ∀ k, k ≤ p.length → reads.getD k 0 = P.Prim.reads p terms k) (i : Nat) :
    (primMask reads (P.Prim.depsL p)).testBit i = P.Prim.flag p terms i := by
  rw [primMask, maskFold (fun k => reads.getD k 0 ≥ 2) fun k => (P.Prim.depsL p).getD k 0, hlen, Nat.zero_testBit,
    Bool.false_or, Bool.eq_iff_iff, P.Prim.flag_iff]
  simp only [List.any_eq_true, List.mem_range, Bool.and_eq_true, decide_eq_true_eq, Bool.or_eq_true,
    Nat.lt_succ_iff]
  constructor
  · rintro ⟨k, hk, h1, h2⟩
    refine ⟨k, hk, hreads k hk ▸ h1, h2.elim (fun h => h ▸ (P.Prim.dgood_row p hp k hk).self) id⟩
  · rintro ⟨k, hk, h1, h2⟩
    exact ⟨k, hk, (hreads k hk).symm ▸ h1, Or.inr h2⟩

def VAgree (n : Nat) (a : List Nat) (f : P.Prim.Vec) : Prop :=
  a.length = n ∧ ∀ j, j < n → a.getD j 0 = f j

theorem basisL_agree (n i : Nat) : VAgree n (basisL n i) (P.Prim.basis i) :=
  ⟨by simp [basisL], fun j hj => by simp [basisL, List.getD_eq_getElem?_getD, hj, P.Prim.basis]⟩

theorem addL_agree (n : Nat) (a b : List Nat) (f g : P.Prim.Vec) (ha : VAgree n a f) (hb : VAgree n b g) :
    VAgree n (addL a b) (P.Prim.addV f g) := by
  obtain ⟨la, ha⟩ := ha
  obtain ⟨lb, hb⟩ := hb
  refine ⟨by simp [addL, la, lb], fun j hj => ?_⟩
  rw [P.Prim.addV, ← ha j hj, ← hb j hj]
  simp [addL, List.getD_eq_getElem?_getD, la, lb, hj]

theorem lshL_agree (n : Nat) (a : List Nat) (f : P.Prim.Vec) (e : Nat) (ha : VAgree n a f) :
    VAgree n (lshL a e) (P.Prim.lshV f e) := by
  obtain ⟨la, ha⟩ := ha
  refine ⟨by simp [lshL, la], fun j hj => ?_⟩
  rw [P.Prim.lshV, ← ha j hj]
  simp [lshL, List.getD_eq_getElem?_getD, la, hj]

theorem zero_agree (n : Nat) : VAgree n (List.replicate n 0) P.Prim.zeroV :=
  ⟨List.length_replicate, fun j hj => by simp [List.getD_eq_getElem?_getD, hj, P.Prim.zeroV]⟩

def VsAgree (n : Nat) (vsL : List (List Nat)) (vsF : List P.Prim.Vec) : Prop :=
  vsL.length = vsF.length ∧
  ∀ k, k < vsL.length → VAgree n (vsL.getD k []) (vsF.getD k P.Prim.zeroV)

theorem vsAgree_snoc {n : Nat} {vsL : List (List Nat)} {vsF : List P.Prim.Vec} {a : List Nat} {f : P.Prim.Vec}
    (h : VsAgree n vsL vsF) (ha : VAgree n a f) : VsAgree n (vsL ++ [a]) (vsF ++ [f]) := by
  obtain ⟨hl, hv⟩ := h
  refine ⟨by rw [List.length_append, List.length_append, hl]; rfl,
    P.Prim.rows_snoc (R := fun k a => VAgree n a ((vsF ++ [f]).getD k P.Prim.zeroV)) (fun k hk => ?_) ?_⟩
  · rw [List.getD_eq_getElem?_getD (l := vsF ++ _), List.getElem?_append_left (hl ▸ hk), ← List.getD_eq_getElem?_getD]
    exact hv k hk
  · rw [hl, List.getD_eq_getElem?_getD (l := vsF ++ _), List.getElem?_concat_length]
    exact ha

def vcStepL (n mask : Nat) (vs : List (List Nat)) (o : Op) : List (List Nat) :=
  vs ++ [if mask.testBit vs.length then basisL n vs.length
         else addL (vs.getD o.1 []) (vs.getD o.2 [])]

theorem vcStep_agree (n mask : Nat) (fl : Nat → Bool) (hm : ∀ i, mask.testBit i = fl i)
    (vsL : List (List Nat)) (vsF : List P.Prim.Vec) (o : Op) (h : VsAgree n vsL vsF)
    (h1 : o.1 < vsL.length) (h2 : o.2 < vsL.length) :
    VsAgree n (vcStepL n mask vsL o) (P.Prim.vcStep fl vsF o) := by
  refine vsAgree_snoc h ?_
  rw [hm, h.1]
  split
  · exact basisL_agree n _
  · exact addL_agree n _ _ _ _ (h.2 _ h1) (h.2 _ h2)

theorem vcFold_agree (n mask : Nat) (fl : Nat → Bool) (hm : ∀ i, mask.testBit i = fl i) :
    ∀ (r : List Op) (vsL : List (List Nat)) (vsF : List P.Prim.Vec) (m : Nat),
    VsAgree n vsL vsF → vsL.length = m + 1 → P.Prim.InRangeP r m →
    VsAgree n (r.foldl (vcStepL n mask) vsL) (r.foldl (P.Prim.vcStep fl) vsF) ∧
      (r.foldl (vcStepL n mask) vsL).length = m + 1 + r.length := by
  intro r
  induction r with
  | nil => intro vsL vsF m h hl _; exact ⟨h, hl⟩
  | cons o r ih =>
    intro vsL vsF m h hl hr
    rw [List.foldl_cons, List.foldl_cons, List.length_cons, ← Nat.add_assoc, Nat.add_right_comm _ r.length]
    exact ih _ _ (m + 1) (vcStep_agree n mask fl hm vsL vsF o h (hl ▸ Nat.lt_succ_of_le hr.1) (hl ▸ Nat.lt_succ_of_le hr.2.1))
      (by simp [vcStepL, hl]) hr.2.2

theorem vcList_agree (n mask : Nat) (fl : Nat → Bool) (hm : ∀ i, mask.testBit i = fl i)
    (p : List Op) (hp : P.Prim.InRangeP p 0) :
    VsAgree n (vcList n mask p) (P.Prim.vcL fl p) ∧ (vcList n mask p).length = p.length + 1 := by
  have := vcFold_agree n mask fl hm p [basisL n 0] [P.Prim.basis 0] 0
    (vsAgree_snoc (vsL := []) (vsF := []) ⟨rfl, nofun⟩ (basisL_agree n 0)) rfl hp
  rwa [Nat.zero_add, Nat.add_comm 1] at this

theorem vTot_agree (n : Nat) (vc : List (List Nat)) (vcF : List P.Prim.Vec) (hvs : VsAgree n vc vcF)
    (f : TermP → Nat) : ∀ (sum : List TermP) (accL : List Nat) (accF : P.Prim.Vec),
    VAgree n accL accF → (∀ t ∈ sum, f t < vc.length) →
    VAgree n
      ((sum.zip (sum.map f)).foldl (fun acc ti => addL acc (lshL (vc.getD ti.2 []) ti.1.2)) accL)
      ((sum.map fun t => (f t, t.2)).foldl
        (fun acc t => P.Prim.addV acc (P.Prim.lshV (vcF.getD t.1 P.Prim.zeroV) t.2)) accF) := by
  intro sum
  induction sum with
  | nil => intro accL accF h _; exact h
  | cons t r ih =>
    intro accL accF h hb
    simp only [List.map_cons, List.zip_cons_cons, List.foldl_cons]
    exact ih _ _ (addL_agree n _ _ _ _ h (lshL_agree n _ _ _ (hvs.2 _ (hb t List.mem_cons_self))))
      fun t' ht' => hb t' (List.mem_cons_of_mem _ ht')

theorem outTerms_agree (n : Nat) (c v : List Nat) (vF : P.Prim.Vec) (h : VAgree n v vF) :
    ((List.range n).flatMap fun i => (P.Prim.bitsSet (v.getD i 0)).map fun e => (c.getD i 0, e)) =
      P.Prim.outTerms n (fun i => c.getD i 0) vF :=
  congrArg List.flatten (List.map_congr_left fun i hi => by rw [h.2 i (List.mem_range.1 hi)])

theorem filterMap_ite {α β} (g : α → Bool) (f : α → β) : ∀ (l : List α),
    (l.filterMap fun i => if g i then some (f i) else none) = (l.filter g).map f := by
  intro l
  induction l with
  | nil => rfl
  | cons a r ih =>
    by_cases h : g a = true
    · simp [h, ih]
    · simp [h, ih]

theorem evalsTo_of_program (c : List Nat) (p : List Op) (hp : program (c.map Int.ofNat) = .ok p) :
    p.length + 1 = c.length ∧ P.Prim.EvalsTo (fun i => c.getD i 0) p 0 := by
  obtain ⟨hlen, hget⟩ := program_get _ p hp
  refine ⟨List.length_map (as := c) _ ▸ hlen, (P.Prim.evalsTo_iff _ p 0).2 fun j o ho => ?_⟩
  have hj := (List.getElem?_eq_some_iff.1 ho).1
  obtain ⟨o', ho', hmo⟩ := hget j hj
  obtain rfl : o' = o := Option.some.inj (ho'.symm.trans ho)
  obtain ⟨i1, i2⟩ := o'
  have := (mem_ops _ (j + 1) i1 i2 (hlen ▸ Nat.succ_lt_succ hj)).1 hmo
  rw [at'_map _ 0 rfl, at'_map _ 0 rfl, at'_map _ 0 rfl] at this
  have h2 : i2 ≤ 0 + j := by rw [Nat.zero_add]; exact Nat.le_of_lt_succ this.2.1
  refine ⟨Nat.le_trans this.1 h2, h2, ?_⟩
  rw [Nat.zero_add]
  exact Int.natCast_inj.1 ((Int.natCast_add _ _).trans this.2.2)

/-- The executable `primitivePre` computes the construction that `P.Prim.primitive_ok` is about, for the
    chain read as the function `cv` and the sum with every dictionary entry replaced by its index. -/
theorem primitivePre_eq (sum : List TermP) (c : List Nat) (p : List Op)
    (hp : program (c.map Int.ofNat) = .ok p) (hidx : ∀ t ∈ sum, idxOf c t.1 < c.length) :
    let cv := fun i => c.getD i 0
    let terms := sum.map fun t => (idxOf c t.1, t.2)
    let fl := P.Prim.flag p terms
    let out := P.Prim.outTerms c.length cv (P.Prim.vTot (P.Prim.vcL fl p) terms)
    primitivePre sum c =
      if valueP out == valueP sum then some (out, ((List.range c.length).filter fl).map cv) else none := by
  intro cv terms fl out
  obtain ⟨hlenp, he⟩ := evalsTo_of_program c p hp
  have hpr := P.Prim.evalsTo_inRange cv p 0 he
  obtain ⟨rl, rg⟩ := readsL_spec p terms
  rw [show terms.map (·.1) = sum.map fun t => idxOf c t.1 by rw [List.map_map]; rfl] at rl rg
  have hm := primMask_spec p terms _ hpr rl rg
  obtain ⟨hvs, hvl⟩ := vcList_agree c.length _ fl hm p hpr
  have hv := vTot_agree c.length _ _ hvs (fun t => idxOf c t.1) sum _ _ (zero_agree _)
    fun t ht => hvl ▸ hlenp ▸ hidx t ht
  unfold primitivePre
  rw [hp]
  dsimp only
  rw [outTerms_agree c.length c _ _ hv]
  simp only [hm]
  rw [filterMap_ite]
  rfl

theorem primitivePre_ok (sum : List TermP) (c : List Nat)
    (hc : IsChain (c.map Int.ofNat))
    (hlen : 2 ≤ sum.length)
    (hmem : ∀ t ∈ sum, t.1 ∈ c) :
    ∃ pre pruned, primitivePre sum c = some (pre, pruned) ∧
      valueP pre = valueP sum ∧
      (∀ t ∈ pre, t.1 ∈ pruned) ∧
      1 ∈ pruned ∧
      (∀ x ∈ pruned, x ∈ c) ∧
      (∀ x ∈ pruned, x = 1 ∨ ∃ a ∈ pruned, ∃ b ∈ pruned, a + b = x) := by
  obtain ⟨p, hp⟩ := (validate_iff _).2 hc
  obtain ⟨hlenp, he⟩ := evalsTo_of_program c p hp
  let cv : Nat → Nat := fun i => c.getD i 0
  let terms : List (Nat × Nat) := sum.map fun t => (idxOf c t.1, t.2)
  have hidx : ∀ t ∈ sum, idxOf c t.1 < c.length ∧ cv (idxOf c t.1) = t.1 :=
    fun t ht => idxOf_spec c t.1 (hmem t ht)
  have hti : ∀ t ∈ terms, t.1 ≤ p.length := by
    intro t htm
    obtain ⟨s, hs, rfl⟩ := List.mem_map.mp htm
    exact Nat.le_of_lt_succ (Nat.lt_of_lt_of_eq (hidx s hs).1 hlenp.symm)
  have hok := P.Prim.primitive_ok cv p terms he (Int.ofNat.inj ((at'_map Int.ofNat 0 rfl c 0).symm.trans hc.2.1))
    (by rw [List.length_map]; exact hlen) hti
  rw [hlenp] at hok
  obtain ⟨m1, m2, m3, m4⟩ := hok
  have hval : (terms.map fun t => cv t.1 * 2 ^ t.2).sum = valueP sum := by
    rw [valueP, List.map_map]
    exact congrArg List.sum (List.map_congr_left fun t ht' => by simp only [Function.comp_def, (hidx t ht').2])
  have hveq : valueP (P.Prim.outTerms c.length cv
      (P.Prim.vTot (P.Prim.vcL (P.Prim.flag p terms) p) terms)) = valueP sum := m1.trans hval
  rw [primitivePre_eq sum c p hp fun t ht => (hidx t ht).1]
  refine ⟨_, _, if_pos (beq_iff_eq.2 hveq), hveq, m2, m3, fun x hx => ?_, m4⟩
  obtain ⟨i, hi, rfl⟩ := List.mem_map.mp hx
  have hic := List.mem_range.1 (List.mem_filter.mp hi).1
  show c.getD i 0 ∈ c
  rw [List.getD_eq_getElem?_getD, List.getElem?_eq_getElem hic]
  exact List.getElem_mem hic

end P.DA
