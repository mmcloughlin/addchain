import AC.ChainX
import AC.CFProof
import AC.Deps
/-! Model of the program builders and analyses of program.go (`Add`, `Double`, `Shift`,
    `boundscheck`, `Count`, `Evaluate`, `ReadCounts`, `Dependencies`) and of `Product`/`Plus` of
    chain.go, with the places where the Go code would panic (index out of range) as explicit
    `none` outcomes. Operands of the builders are `Int` (Go `int`: negative values can be passed). -/
namespace P.PX
open P P.Prim

/-- the two errors of `Program.boundscheck` -/
inductive Err
  | negative (i : Int)      -- "negative index %d"
  | outOfBounds (i : Int)   -- "index %d out of bounds"
deriving Repr, DecidableEq

/-- `Program.boundscheck`: the chain is one longer than the program, so `i = len` is allowed -/
def boundscheck (p : List Op) (i : Int) : Option Err :=
  if i < 0 then some (.negative i)
  else if i > (p.length : Int) then some (.outOfBounds i)
  else none

/-- `Program.Add`: checks `i`, then `j`, then appends and returns the new length -/
def padd (p : List Op) (i j : Int) : Except Err (List Op × Nat) :=
  match boundscheck p i with
  | some e => .error e
  | none =>
    match boundscheck p j with
    | some e => .error e
    | none => .ok (p ++ [(i.toNat, j.toNat)], p.length + 1)

/-- `Program.Double` -/
def pdouble (p : List Op) (i : Int) : Except Err (List Op × Nat) := padd p i i

/-- `Program.Shift`: `s` doublings one at a time; state passing form, because the Go loop could
    in principle fail after some doublings were already appended (the returned program is the
    receiver's content afterwards). With `s = 0` it returns `i` without any check. -/
def pshift (p : List Op) (i : Int) : Nat → List Op × Except Err Int
  | 0 => (p, .ok i)
  | s + 1 =>
    match pdouble p i with
    | .error e => (p, .error e)
    | .ok (p', n) => pshift p' (n : Int) s

/-- one builder call -/
inductive Call
  | add (i j : Int)
  | double (i : Int)
  | shift (i : Int) (s : Nat)
deriving Repr, DecidableEq

/-- program after the call and what the call returned -/
def step (p : List Op) : Call → List Op × Except Err Int
  | .add i j => match padd p i j with
    | .ok (p', n) => (p', .ok (n : Int))
    | .error e => (p, .error e)
  | .double i => match pdouble p i with
    | .ok (p', n) => (p', .ok (n : Int))
    | .error e => (p, .error e)
  | .shift i s => pshift p i s

/-- run a call sequence: final program, per-call results, program after each call -/
def runCalls (p : List Op) : List Call → List Op × List (Except Err Int × List Op)
  | [] => (p, [])
  | c :: cs =>
    let (p', r) := step p c
    let (q, rs) := runCalls p' cs
    (q, (r, p') :: rs)

/-- final program only -/
def build (p : List Op) (cs : List Call) : List Op := (runCalls p cs).1

/-- `Program.Count`: (doubles, adds) -/
def count (p : List Op) : Nat × Nat :=
  p.foldl (fun (acc : Nat × Nat) o => if o.1 == o.2 then (acc.1 + 1, acc.2) else (acc.1, acc.2 + 1)) (0, 0)

/-- `Program.Evaluate`; `none` = index out of range panic -/
def evaluateX (p : List Op) : Option Chain :=
  p.foldlM (fun (c : Chain) o =>
    if o.1 < c.length ∧ o.2 < c.length then some (c ++ [at' c o.1 + at' c o.2]) else none) [1]

/-- `reads[i]++`; `none` = index out of range panic -/
def incr (l : List Nat) (i : Nat) : Option (List Nat) :=
  if i < l.length then some (l.set i (l.getD i 0 + 1)) else none

/-- `Op.Operands`: one entry for a doubling -/
def operands (o : Op) : List Nat := if o.1 == o.2 then [o.1] else [o.1, o.2]

/-- `Program.ReadCounts`; `none` = index out of range panic -/
def readCounts (p : List Op) : Option (List Nat) :=
  p.foldlM (fun r o => (operands o).foldlM incr r) (List.replicate (p.length + 1) 0)

/-- `Program.Dependencies`, bitsets as naturals; `none` = index out of range panic -/
def dependencies (p : List Op) : Option (List Nat) :=
  p.foldlM (fun (ds : List Nat) o =>
    if o.1 < ds.length ∧ o.2 < ds.length then some (depsStep ds o) else none) [1]

/-- `Product`; `none` = panic (`End` of an empty chain, `b[1:]` of an empty chain) -/
def productX (a b : Chain) : Option Chain :=
  if a.isEmpty || b.isEmpty then none else some (product a b)

/-- `Plus`; `none` = panic (`End` of an empty chain) -/
def plusX (a : Chain) (x : Int) : Option Chain :=
  if a.isEmpty then none else some (plus a x)

/-- every operation reads positions that exist when it is executed: op number `k` (0-based,
    producing position `k+1`) has both operands `≤ k` -/
def InRange (p : List Op) : Prop := ∀ k (h : k < p.length), p[k].1 ≤ k ∧ p[k].2 ≤ k

/-- "`j` is an operand of position `k`" closed reflexively and transitively -/
inductive Reach (p : List Op) (j : Nat) : Nat → Prop
  | refl : Reach p j j
  | step (m k : Nat) : 1 ≤ k → k ≤ p.length → (m = (opAt p k).1 ∨ m = (opAt p k).2) →
      Reach p j m → Reach p j k

/-- operation `o` uses position `i` (`Op.Uses`) -/
def uses (i : Nat) (o : Op) : Bool := o.1 == i || o.2 == i

/-- ops appended by `Shift(i, s)` on a program of length `n` -/
def shiftOps (n i : Nat) : Nat → List Op
  | 0 => []
  | s + 1 => (i, i) :: shiftOps (n + 1) (n + 1) s

@[elab_as_elim]
theorem snocInd {α} {motive : List α → Prop} (nil : motive [])
    (append_singleton : ∀ l a, motive l → motive (l ++ [a])) (l : List α) : motive l := by
  have : ∀ r : List α, motive r.reverse := by
    intro r
    induction r with
    | nil => exact nil
    | cons a r ih => rw [List.reverse_cons]; exact append_singleton _ _ ih
  exact List.reverse_reverse l ▸ this l.reverse

theorem boundscheck_none_iff (p : List Op) (i : Int) :
    boundscheck p i = none ↔ 0 ≤ i ∧ i ≤ (p.length : Int) := by
  unfold boundscheck
  split
  · next h1 => exact ⟨nofun, fun h => absurd h1 (Int.not_lt.mpr h.1)⟩
  · split
    · next h2 => exact ⟨nofun, fun h => absurd h2 (Int.not_lt.mpr h.2)⟩
    · next h1 h2 => exact ⟨fun _ => ⟨Int.not_lt.mp h1, Int.not_lt.mp h2⟩, fun _ => rfl⟩

theorem padd_ok (p : List Op) (i j : Int) (hi : 0 ≤ i ∧ i ≤ (p.length : Int))
    (hj : 0 ≤ j ∧ j ≤ (p.length : Int)) :
    padd p i j = .ok (p ++ [(i.toNat, j.toNat)], p.length + 1) := by
  unfold padd
  rw [(boundscheck_none_iff p i).2 hi, (boundscheck_none_iff p j).2 hj]

theorem padd_err (p : List Op) (i j : Int)
    (h : ¬ ((0 ≤ i ∧ i ≤ (p.length : Int)) ∧ (0 ≤ j ∧ j ≤ (p.length : Int)))) :
    ∃ e, padd p i j = .error e := by
  unfold padd
  cases hi : boundscheck p i with
  | some e => exact ⟨e, rfl⟩
  | none =>
    cases hj : boundscheck p j with
    | some e => exact ⟨e, rfl⟩
    | none => exact absurd ⟨(boundscheck_none_iff p i).1 hi, (boundscheck_none_iff p j).1 hj⟩ h

theorem shiftOps_length : ∀ (s n i : Nat), (shiftOps n i s).length = s := by
  intro s; induction s with
  | zero => intros; rfl
  | succ s ih => intro n i; rw [shiftOps, List.length_cons, ih]

theorem pshift_succ (p : List Op) (i : Int) (s : Nat) (h : 0 ≤ i ∧ i ≤ (p.length : Int)) :
    pshift p i (s + 1) = pshift (p ++ [(i.toNat, i.toNat)]) ((p.length + 1 : Nat) : Int) s := by
  rw [pshift, pdouble, padd_ok p i i h h]

/-- shifting the newest position `n`: every doubling reads the position just written, so no check fails -/
theorem pshift_length (s : Nat) (p : List Op) (n : Nat) (hn : p.length = n) :
    pshift p (n : Int) s = (p ++ shiftOps n n s, .ok ((n + s : Nat) : Int)) := by
  induction s generalizing p n with
  | zero => rw [pshift, shiftOps, List.append_nil]; rfl
  | succ s ih =>
    subst hn
    rw [pshift_succ p _ s ⟨Int.natCast_nonneg _, Int.le_refl _⟩, Int.toNat_natCast,
      ih (p ++ [(p.length, p.length)]) (p.length + 1) List.length_append, shiftOps, List.append_assoc, Nat.add_right_comm]
    rfl

theorem pshift_ok : ∀ (s : Nat) (p : List Op) (i : Int), 1 ≤ s → 0 ≤ i → i ≤ (p.length : Int) →
    pshift p i s = (p ++ shiftOps p.length i.toNat s, .ok ((p.length + s : Nat) : Int)) := by
  intro s p i hs h0 h1
  obtain ⟨s, rfl⟩ := Nat.exists_eq_succ_of_ne_zero (Nat.ne_of_gt hs)
  -- after the first (checked) doubling the rest shifts the newest position
  rw [pshift_succ p i s ⟨h0, h1⟩, pshift_length s (p ++ [(i.toNat, i.toNat)]) (p.length + 1) List.length_append, shiftOps,
    List.append_assoc, Nat.add_right_comm]
  rfl

theorem pshift_err (s : Nat) (p : List Op) (i : Int) (h : ¬ (0 ≤ i ∧ i ≤ (p.length : Int))) :
    ∃ e, pshift p i (s + 1) = (p, .error e) := by
  unfold pshift pdouble
  obtain ⟨e, he⟩ := padd_err p i i (fun hh => h hh.1)
  rw [he]
  exact ⟨e, rfl⟩

theorem inRange_nil : InRange [] := nofun

theorem inRange_append_singleton (p : List Op) (o : Op) :
    InRange (p ++ [o]) ↔ InRange p ∧ o.1 ≤ p.length ∧ o.2 ≤ p.length := by
  constructor
  · intro h
    refine ⟨fun k hk => ?_, ?_⟩
    · have := h k (by rw [List.length_append]; exact Nat.lt_add_right _ hk)
      rwa [List.getElem_append_left hk] at this
    · have := h p.length (by rw [List.length_append]; exact Nat.lt_succ_self _)
      rwa [List.getElem_concat_length rfl] at this
  · rintro ⟨h, ho⟩ k hk
    rw [List.length_append] at hk
    rcases Nat.eq_or_lt_of_le (Nat.le_of_lt_succ hk) with rfl | hkl
    · rwa [List.getElem_concat_length rfl]
    · rw [List.getElem_append_left hkl]; exact h k hkl

theorem inRange_snoc (p : List Op) (o : Op) (h : InRange p) (h1 : o.1 ≤ p.length) (h2 : o.2 ≤ p.length) :
    InRange (p ++ [o]) :=
  (inRange_append_singleton p o).2 ⟨h, h1, h2⟩

theorem inRange_init (p : List Op) (o : Op) (h : InRange (p ++ [o])) :
    InRange p ∧ o.1 ≤ p.length ∧ o.2 ≤ p.length :=
  (inRange_append_singleton p o).1 h

/-- op `k` of an in-range program reads below `k + 1`, the length of what the first `k` ops have built -/
theorem inRange_lt {p : List Op} (h : InRange p) {k n : Nat} (hk : k < p.length) (hn : n = k + 1) :
    p[k].1 < n ∧ p[k].2 < n :=
  hn ▸ ⟨Nat.lt_succ_of_le (h k hk).1, Nat.lt_succ_of_le (h k hk).2⟩

theorem inRange_mem_le (p : List Op) (h : InRange p) : ∀ o ∈ p, o.1 ≤ p.length ∧ o.2 ≤ p.length := by
  intro o ho
  obtain ⟨k, hk, rfl⟩ := List.getElem_of_mem ho
  exact ⟨Nat.le_trans (h k hk).1 (Nat.le_of_lt hk), Nat.le_trans (h k hk).2 (Nat.le_of_lt hk)⟩

theorem inRange_shiftOps : ∀ (s : Nat) (p : List Op) (i : Nat), InRange p → i ≤ p.length →
    InRange (p ++ shiftOps p.length i s) := by
  intro s
  induction s with
  | zero => intro p i h _; rwa [shiftOps, List.append_nil]
  | succ s ih =>
    intro p i h hi
    have := ih (p ++ [(i, i)]) (p.length + 1) (inRange_snoc p (i, i) h hi hi)
      (by rw [List.length_append]; exact Nat.le_refl _)
    rwa [List.length_append, List.append_assoc] at this

theorem inRange_iff_inRangeP_aux : ∀ (r : List Op) (n : Nat),
    InRangeP r n ↔ ∀ k (h : k < r.length), r[k].1 ≤ n + k ∧ r[k].2 ≤ n + k := by
  intro r
  induction r with
  | nil => intro n; exact ⟨fun _ => nofun, fun _ => trivial⟩
  | cons o r ih =>
    intro n
    rw [InRangeP, ih]
    constructor
    · rintro ⟨h1, h2, h3⟩ k hk
      cases k with
      | zero => exact ⟨h1, h2⟩
      | succ k => rw [← Nat.add_assoc, Nat.add_right_comm]; exact h3 k (Nat.lt_of_succ_lt_succ hk)
    · intro h
      refine ⟨(h 0 (Nat.succ_pos _)).1, (h 0 (Nat.succ_pos _)).2, fun k hk => ?_⟩
      rw [Nat.add_right_comm, Nat.add_assoc]
      exact h (k + 1) (Nat.succ_lt_succ hk)

theorem inRange_iff_inRangeP (p : List Op) : InRange p ↔ InRangeP p 0 := by
  rw [inRange_iff_inRangeP_aux]
  simp only [Nat.zero_add]
  rfl

theorem step_add_inRange (p : List Op) (i j : Int) (h : InRange p) : InRange (step p (.add i j)).1 := by
  rw [step]
  by_cases hr : (0 ≤ i ∧ i ≤ (p.length : Int)) ∧ (0 ≤ j ∧ j ≤ (p.length : Int))
  · rw [padd_ok p i j hr.1 hr.2]
    exact inRange_snoc p _ h (Int.toNat_le.mpr hr.1.2) (Int.toNat_le.mpr hr.2.2)
  · obtain ⟨e, he⟩ := padd_err p i j hr
    rw [he]; exact h

theorem step_inRange (p : List Op) (c : Call) (h : InRange p) : InRange (step p c).1 := by
  cases c with
  | add i j => exact step_add_inRange p i j h
  | double i => exact step_add_inRange p i i h
  | shift i s =>
    rw [step]
    cases s with
    | zero => exact h
    | succ s =>
      by_cases hr : (0 ≤ i ∧ i ≤ (p.length : Int))
      · rw [pshift_ok (s + 1) p i (Nat.succ_pos s) hr.1 hr.2]
        exact inRange_shiftOps (s + 1) p i.toNat h (Int.toNat_le.mpr hr.2)
      · obtain ⟨e, he⟩ := pshift_err s p i hr
        rw [he]; exact h

theorem build_inRange : ∀ (cs : List Call) (p : List Op), InRange p → InRange (build p cs) := by
  intro cs
  induction cs with
  | nil => intro p h; exact h
  | cons c cs ih => intro p h; exact ih (step p c).1 (step_inRange p c h)

theorem evaluate_length (p : List Op) : (evaluate p).length = p.length + 1 := length_evaluate p

theorem foldlM_guard {α β} (f : β → α → β) (g : β → α → Prop) [∀ b a, Decidable (g b a)]
    (l : List α) (b : β) (h : ∀ k (hk : k < l.length), g ((l.take k).foldl f b) l[k]) :
    l.foldlM (fun b a => if g b a then some (f b a) else none) b = some (l.foldl f b) := by
  induction l generalizing b with
  | nil => rfl
  | cons a l ih =>
    have h0 : g b a := h 0 (Nat.succ_pos _)
    rw [List.foldlM_cons, if_pos h0]
    exact ih (f b a) fun k hk => h (k + 1) (Nat.succ_lt_succ hk)

theorem evaluateX_eq (p : List Op) (h : InRange p) : evaluateX p = some (evaluate p) := by
  refine foldlM_guard (fun c o => c ++ [at' c o.1 + at' c o.2])
    (fun c o => o.1 < c.length ∧ o.2 < c.length) p [1] fun k hk => inRange_lt h hk ?_
  show (evaluate (p.take k)).length = k + 1
  rw [evaluate_length, List.length_take, Nat.min_eq_left (Nat.le_of_lt hk)]

theorem count_append (p : List Op) (o : Op) :
    count (p ++ [o]) = if o.1 == o.2 then ((count p).1 + 1, (count p).2) else ((count p).1, (count p).2 + 1) := by
  simp [count, List.foldl_append]

theorem count_eq (p : List Op) :
    count p = (p.countP (fun o => o.1 == o.2), p.countP (fun o => !(o.1 == o.2))) := by
  induction p using snocInd with
  | nil => rfl
  | append_singleton p o ih =>
    rw [count_append, ih]
    by_cases h : (o.1 == o.2) = true
    · simp [h, List.countP_append]
    · simp [h, List.countP_append]

theorem count_sum (p : List Op) : (count p).1 + (count p).2 = p.length := by
  rw [count_eq, List.length_eq_countP_add_countP (fun o : Op => o.1 == o.2) (l := p)]
  refine congrArg (_ + p.countP ·) (funext fun o => ?_)
  cases o.1 == o.2 <;> rfl

theorem getD_set_succ (l : List Nat) (i k : Nat) (h : i < l.length) :
    (l.set i (l.getD i 0 + 1)).getD k 0 = l.getD k 0 + if i == k then 1 else 0 := by
  rw [List.getD_eq_getElem?_getD, List.getD_eq_getElem?_getD, List.getElem?_set]
  cases hk : i == k
  · rw [if_neg (by simpa using hk)]; rfl
  · obtain rfl := beq_iff_eq.mp hk
    rw [if_pos rfl, if_pos h, List.getD_eq_getElem?_getD]
    rfl

theorem foldlM_incr (is : List Nat) (r : List Nat) (h : ∀ i ∈ is, i < r.length) :
    ∃ r', is.foldlM incr r = some r' ∧ r'.length = r.length ∧
      ∀ k, r'.getD k 0 = r.getD k 0 + is.count k := by
  induction is generalizing r with
  | nil => exact ⟨r, rfl, rfl, fun k => rfl⟩
  | cons i is ih =>
    have hi := h i List.mem_cons_self
    obtain ⟨r', e, l, g⟩ := ih (r.set i (r.getD i 0 + 1)) fun j hj => by
      rw [List.length_set]; exact h j (List.mem_cons_of_mem _ hj)
    refine ⟨r', ?_, l.trans List.length_set, fun k => ?_⟩
    · rw [List.foldlM_cons, incr, if_pos hi]; exact e
    · rw [g k, getD_set_succ r i k hi, List.count_cons, Nat.add_assoc, Nat.add_comm (ite _ _ _)]

theorem mem_operands (o : Op) (i : Nat) (h : i ∈ operands o) : i = o.1 ∨ i = o.2 := by
  unfold operands at h
  split at h
  · exact Or.inl (List.mem_singleton.mp h)
  · simpa using h

theorem count_operands (o : Op) (k : Nat) : (operands o).count k = if uses k o then 1 else 0 := by
  obtain ⟨a, b⟩ := o
  unfold operands uses
  by_cases hab : a = b
  · subst hab
    rw [if_pos (beq_self_eq_true a), List.count_singleton, Bool.or_self]
  · rw [if_neg (mt beq_iff_eq.mp hab), List.count_cons, List.count_singleton]
    cases ha : a == k <;> cases hb : b == k
    · rfl
    · rfl
    · rfl
    · exact absurd ((beq_iff_eq.mp ha).trans (beq_iff_eq.mp hb).symm) hab

theorem readCounts_aux : ∀ (q : List Op) (r0 : List Nat),
    (∀ o ∈ q, o.1 < r0.length ∧ o.2 < r0.length) →
    ∃ r, q.foldlM (fun r o => (operands o).foldlM incr r) r0 = some r ∧ r.length = r0.length ∧
      ∀ k, r.getD k 0 = r0.getD k 0 + q.countP (uses k) := by
  intro q
  induction q with
  | nil => intro r0 _; exact ⟨r0, rfl, rfl, fun k => rfl⟩
  | cons o q ih =>
    intro r0 h
    obtain ⟨h1, h2⟩ := h o List.mem_cons_self
    obtain ⟨r1, e1, l1, g1⟩ := foldlM_incr (operands o) r0 fun i hi =>
      (mem_operands o i hi).elim (· ▸ h1) (· ▸ h2)
    obtain ⟨r2, e2, l2, g2⟩ := ih r1 fun o' ho' => l1 ▸ h o' (List.mem_cons_of_mem _ ho')
    refine ⟨r2, ?_, l2.trans l1, fun k => ?_⟩
    · rw [List.foldlM_cons, e1]; exact e2
    · rw [g2 k, g1 k, count_operands, List.countP_cons, Nat.add_assoc, Nat.add_comm (ite _ _ _)]

theorem readCounts_ok (p : List Op) (h : ∀ o ∈ p, o.1 ≤ p.length ∧ o.2 ≤ p.length) :
    ∃ r, readCounts p = some r ∧ r.length = p.length + 1 ∧
      ∀ k, r.getD k 0 = p.countP (uses k) := by
  obtain ⟨r, e, l, g⟩ := readCounts_aux p (List.replicate (p.length + 1) 0) fun o ho => by
    rw [List.length_replicate]
    exact ⟨Nat.lt_succ_of_le (h o ho).1, Nat.lt_succ_of_le (h o ho).2⟩
  refine ⟨r, e, l.trans List.length_replicate, fun k => ?_⟩
  rw [g k, List.getD_eq_getElem?_getD, List.getElem?_replicate]
  split <;> exact Nat.zero_add _

theorem depsL_append (p : List Op) (o : Op) : depsL (p ++ [o]) = depsStep (depsL p) o := by
  simp [depsL, List.foldl_append]

theorem depsL_length (p : List Op) : (depsL p).length = p.length + 1 := by
  induction p using snocInd with
  | nil => rfl
  | append_singleton p o ih =>
    rw [depsL_append, depsStep, List.length_append, ih, List.length_append]
    rfl

theorem dependencies_eq (p : List Op) (h : InRange p) : dependencies p = some (depsL p) := by
  refine foldlM_guard depsStep (fun ds o => o.1 < ds.length ∧ o.2 < ds.length) p [1]
    fun k hk => inRange_lt h hk ?_
  show (depsL (p.take k)).length = k + 1
  rw [depsL_length, List.length_take, Nat.min_eq_left (Nat.le_of_lt hk)]

theorem reach_of_bit (p : List Op) (ds : List Nat) (h : DExact p ds) :
    ∀ n k, k ≤ n → k ≤ p.length → ∀ j, (ds.getD k 0).testBit j = true → Reach p j k := by
  intro n k hn
  clear hn n
  -- by the recursion of `DExact` a bit of row `k` is `k` itself or a bit of an operand's (earlier) row
  induction k using Nat.strongRecOn with
  | _ k ih =>
    intro hkl j hj
    rcases Nat.eq_zero_or_pos k with rfl | hk1
    · exact (h.zero j).1 hj ▸ Reach.refl
    · obtain ⟨b1, b2⟩ := h.inr k hk1 hkl
      rcases (h.unfold k hk1 hkl j).1 hj with rfl | e | e
      · exact Reach.refl
      · exact Reach.step _ k hk1 hkl (Or.inl rfl) (ih _ b1 (Nat.le_trans (Nat.le_of_lt b1) hkl) j e)
      · exact Reach.step _ k hk1 hkl (Or.inr rfl) (ih _ b2 (Nat.le_trans (Nat.le_of_lt b2) hkl) j e)

theorem bit_of_reach (p : List Op) (ds : List Nat) (h : DExact p ds) (j k : Nat) (hr : Reach p j k) :
    k ≤ p.length → (ds.getD k 0).testBit j = true := by
  induction hr with
  | refl =>
    intro hk
    rcases Nat.eq_zero_or_pos j with rfl | hj
    · exact (h.zero 0).2 rfl
    · exact (h.unfold j hj hk j).2 (Or.inl rfl)
  | step m k hk1 hkl hm _ ih =>
    intro _
    obtain ⟨b1, b2⟩ := h.inr k hk1 hkl
    rcases hm with rfl | rfl
    · exact (h.unfold k hk1 hkl j).2 (Or.inr (Or.inl (ih (Nat.le_trans (Nat.le_of_lt b1) hkl))))
    · exact (h.unfold k hk1 hkl j).2 (Or.inr (Or.inr (ih (Nat.le_trans (Nat.le_of_lt b2) hkl))))

theorem goodC_of_isChain (c : Chain) (hc : IsChain c) (hasc : c.Pairwise (· < ·)) : GoodC c :=
  ⟨hasc, isChain_head c hc, isChain_mem_pos c hc, isChain_closed c hc⟩

end P.PX
