/-! The last element (`getLastD`, `dropLast`) of a list; with default `0`, of a list of integers, in particular a sorted one. -/
namespace P

theorem mem_pair {α} (x a b : α) : x ∈ [a, b] ↔ x = a ∨ x = b := by simp

theorem getLastD_mem (l : List Int) (h : l ≠ []) : l.getLastD 0 ∈ l := by
  cases l with
  | nil => exact absurd rfl h
  | cons a r => exact List.getLast_mem _

theorem getLastD_default {α} (a : List α) (h : a ≠ []) (d1 d2 : α) : a.getLastD d1 = a.getLastD d2 := by
  cases a with
  | nil => exact absurd rfl h
  | cons x t => rfl

theorem dropLast_concat_getLastD (l : List Int) (h : l ≠ []) : l = l.dropLast ++ [l.getLastD 0] := by
  cases l with
  | nil => exact absurd rfl h
  | cons a r => exact (List.dropLast_concat_getLast (List.cons_ne_nil a r)).symm

theorem mem_iff_dropLast_or_last (l : List Int) (h : l ≠ []) (x : Int) :
    x ∈ l ↔ x ∈ l.dropLast ∨ x = l.getLastD 0 := by
  rw [← List.mem_singleton, ← List.mem_append, ← dropLast_concat_getLastD l h]

theorem getLastD_append_singleton {α} (l : List α) (x d : α) : (l ++ [x]).getLastD d = x := by
  simp [List.getLastD_eq_getLast?]

theorem getLastD_append_ne_nil {α} (l r : List α) (d : α) (h : r ≠ []) : (l ++ r).getLastD d = r.getLastD d := by
  cases r with
  | nil => exact absurd rfl h
  | cons a t => simp [List.getLastD_eq_getLast?, List.getLast?_append, List.getLast?_cons]

theorem pairwise_dropLast {R : Int → Int → Prop} (l : List Int) (h : l.Pairwise R) (hne : l ≠ []) :
    l.dropLast.Pairwise R ∧ ∀ x ∈ l.dropLast, R x (l.getLastD 0) := by
  rw [dropLast_concat_getLastD l hne] at h
  have := List.pairwise_append.mp h
  exact ⟨this.1, fun x hx => this.2.2 x hx _ (List.mem_singleton_self _)⟩

theorem getLastD_map_mul (A : Int) (l : List Int) : (l.map (A * ·)).getLastD 0 = A * l.getLastD 0 := by
  simp only [List.getLastD_eq_getLast?, List.getLast?_map]
  cases l.getLast? <;> simp

theorem le_getLastD (l : List Int) (h : l.Pairwise (· ≤ ·)) : ∀ x ∈ l, x ≤ l.getLastD 0 := by
  intro x hx
  have hne : l ≠ [] := List.ne_nil_of_mem hx
  rcases (mem_iff_dropLast_or_last l hne x).1 hx with h1 | h1
  · exact (pairwise_dropLast l h hne).2 x h1
  · exact Int.le_of_eq h1

theorem getLastD_eq_of_max (l : List Int) (n : Int) (h : l.Pairwise (· ≤ ·)) (hn : n ∈ l)
    (hle : ∀ x ∈ l, x ≤ n) : l.getLastD 0 = n :=
  Int.le_antisymm (hle _ (getLastD_mem l (List.ne_nil_of_mem hn))) (le_getLastD l h n hn)

end P
