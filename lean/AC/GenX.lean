import AC.AllocX
import AC.Listing
import AC.Gen.GenPasses
/-! # Executable model of output generation (`internal/gen`) for the builtin templates

`prepareX` = `gen.PrepareData` after `acc.Translate`: the passes named in the list extracted from
`gen.go` (`AC.Gen.genPasses`) applied in order to the translated program; the renderers are
hand-models of `templates/listing.tmpl`, `chain.tmpl`, `ops.tmpl` (tied to the template files by
source expectations and to `text/template` by exact output comparison). -/
namespace AC.GenX
open P.Alloc AC.AllocX

/-! ### `pass.Validate` = `CheckDanglingInputs`, then `CheckUniqueOutputs` -/
def danglingFrom (defined : List Nat) : List Inst → Bool
  | [] => true
  | i :: r => i.op.inputs.all (fun x => defined.contains x) && danglingFrom (i.out :: defined) r

/-- `pass.CheckUniqueOutputs`: no instruction outputs index 0 or an index already output -/
def uniqueFrom (defined : List Nat) : List Inst → Bool
  | [] => true
  | i :: r => !defined.contains i.out && uniqueFrom (i.out :: defined) r

/-- `pass.Validate`: `true` = every input is index 0 or the output of an earlier instruction, and
    every output index is new (not 0, not the output of an earlier instruction) -/
def validateB (ir : List Inst) : Bool := danglingFrom [0] ir && uniqueFrom [0] ir

/-! ### `pass.Compile` / `pass.Eval` -/

/-- `Program.Add` with its bounds check (the chain is one longer than the program) -/
def progAdd (p : Array (Nat × Nat)) (i j : Nat) : Except String (Array (Nat × Nat) × Nat) :=
  if i > p.size then .error "index out of bounds"
  else if j > p.size then .error "index out of bounds"
  else let p' := p.push (i, j); .ok (p', p'.size)

/-- `Program.Shift`: `s` doublings; returns the operand itself when `s = 0` -/
def progShift (p : Array (Nat × Nat)) (i : Nat) : Nat → Except String (Array (Nat × Nat) × Nat)
  | 0 => .ok (p, i)
  | s + 1 =>
    match progAdd p i i with
    | .ok (p', next) => progShift p' next s
    | .error e => .error e

def compileFrom (p : Array (Nat × Nat)) : List Inst → Except String (Array (Nat × Nat))
  | [] => .ok p
  | i :: r =>
    let res := match i.op with
      | .add x y => progAdd p x y
      | .dbl x => progAdd p x x
      | .shl x s => progShift p x s
    match res with
    | .error e => .error e
    | .ok (p', out) => if out ≠ i.out then .error "incorrect output index" else compileFrom p' r

def compileX (ir : List Inst) : Except String (List (Nat × Nat)) :=
  match compileFrom #[] ir with
  | .ok p => .ok p.toList
  | .error e => .error e

/-- `Program.Evaluate` -/
def evaluateX (ops : List (Nat × Nat)) : List Nat :=
  (ops.foldl (fun (c : Array Nat) o => c.push (c.getD o.1 0 + c.getD o.2 0)) #[1]).toList

/-! ### which output operand objects are canonical

`acc.Translate` creates a fresh operand object for every instruction output.
`CanonicalizeOperands` makes the *first* occurrence of an index (inputs before the output within an
instruction) the canonical object, replaces instruction inputs by canonical objects, and leaves
outputs alone. The allocator names canonical objects only, so an output whose index occurred
earlier keeps the identifier the script gave it (and prints as `[index]` when it has none). -/
def outCanonFrom (seen : List Nat) : List Inst → List Bool
  | [] => []
  | i :: r =>
    let seen' := i.op.inputs ++ seen
    (!seen'.contains i.out) :: outCanonFrom (i.out :: seen') r

def outCanon (ir : List Inst) : List Bool := outCanonFrom [] ir

/-- `Operand.String()` for an operand without identifier -/
def indexName (i : Nat) : String := "[" ++ toString i ++ "]"

def fixOutputs (ir : List Inst) (preOut : List String) (prog : List (NInst String)) : List (NInst String) :=
  (prog.zip ((outCanon ir).zip (ir.zip preOut))).map fun (n, canon, inst, pre) =>
    if canon then n else { n with out := if pre = "" then indexName inst.out else pre }

/-! ### `gen.PrepareData` -/
structure Data where
  chain : List Nat := []
  ops : List (Nat × Nat) := []
  prog : List (NInst String) := []
  temps : List String := []

/-- one pass of the extracted list; an unknown pass expression is an error of the model -/
def applyPass (cfg : Cfg String) (ir : List Inst) (occ : List (Nat × String)) (preOut : List String)
    (d : Data) (pass : String) : Except String Data :=
  if pass = "pass.Validate" then
    if !danglingFrom [0] ir then .error "no output instruction for input index"
    else if !uniqueFrom [0] ir then .error "multiple definitions of index"
    else .ok d
  else if pass = "cfg.Allocator" then
    match allocateN cfg ir occ with
    | .ok (prog, temps) => .ok { d with prog := fixOutputs ir preOut prog, temps := temps }
    | .error e => .error e
  else if pass = "pass.Func(pass.Eval)" then
    match compileX ir with
    | .ok ops => .ok { d with ops := ops, chain := evaluateX ops }
    | .error e => .error e
  else .error ("model: unknown pass " ++ pass)

def runPasses (cfg : Cfg String) (ir : List Inst) (occ : List (Nat × String)) (preOut : List String) :
    List String → Data → Except String Data
  | [], d => .ok d
  | p :: r, d =>
    match applyPass cfg ir occ preOut d p with
    | .ok d' => runPasses cfg ir occ preOut r d'
    | .error e => .error e

def prepareX (cfg : Cfg String) (ir : List Inst) (occ : List (Nat × String)) (preOut : List String) :
    Except String Data :=
  runPasses cfg ir occ preOut AC.Gen.genPasses {}

/-! ### the templates -/

/-- `listing.tmpl`: `tmp\t` followed by the tab-joined temporaries (nothing after the tab when
    there are none), then one line per instruction; every line ends with a newline -/
def tmpLineX (tmps : List (List Char)) : List Char :=
  "tmp\t".toList ++ P.Listing.joinWith '\t' tmps

def renderListingX (tmps : List (List Char)) (ls : List P.Listing.Line) : List Char :=
  P.Listing.joinWith '\n' (tmpLineX tmps :: ls.map P.Listing.renderLine) ++ ['\n']

def toLine (i : NInst String) : P.Listing.Line :=
  match i.op with
  | .add x y => ⟨i.out.toList, .add x.toList y.toList⟩
  | .dbl x => ⟨i.out.toList, .dbl x.toList⟩
  | .shl x s => ⟨i.out.toList, .shl x.toList s⟩

def listingOf (d : Data) : String :=
  String.ofList (renderListingX (d.temps.map String.toList) (d.prog.map toLine))

def padLeft (w : Nat) (s : List Char) : List Char := List.replicate (w - s.length) ' ' ++ s
def padRight (w : Nat) (s : List Char) : List Char := s ++ List.replicate (w - s.length) ' '
def dec (n : Nat) : List Char := Nat.toDigits 10 n
/-- `%#x` of a non-negative big integer -/
def hex0x (n : Nat) : List Char := '0' :: 'x' :: Nat.toDigits 16 n

/-- `chain.tmpl`: `printf "%3d: %#x\n" (inc n) value` per chain element -/
def chainLine (n v : Nat) : List Char := padLeft 3 (dec (n + 1)) ++ ": ".toList ++ hex0x v ++ ['\n']

def renderChainFrom (n : Nat) : List Nat → List Char
  | [] => []
  | v :: r => chainLine n v ++ renderChainFrom (n + 1) r

def renderChain (c : List Nat) : List Char := renderChainFrom 0 c

/-- `ops.tmpl`: `printf "[%3d] %4d+%-4d %#x\n" n op.I op.J chain[n+1]` per operation -/
def opsLine (n i j v : Nat) : List Char :=
  '[' :: padLeft 3 (dec n) ++ "] ".toList ++ padLeft 4 (dec i) ++ ['+'] ++ padRight 4 (dec j) ++ [' '] ++
    hex0x v ++ ['\n']

def renderOpsFrom (n : Nat) : List (Nat × Nat) → List Nat → List Char
  | o :: r, v :: vs => opsLine n o.1 o.2 v ++ renderOpsFrom (n + 1) r vs
  | _, _ => []

/-- operation `n` is printed with chain element `n + 1` -/
def renderOps (ops : List (Nat × Nat)) (c : List Nat) : List Char := renderOpsFrom 0 ops c.tail

/-- what the outputs are expected to list: (position, value) from position `n` on -/
def enumChain (n : Nat) : List Nat → List (Nat × Nat)
  | [] => []
  | v :: r => (n + 1, v) :: enumChain (n + 1) r

def enumOps (n : Nat) : List (Nat × Nat) → List Nat → List (Nat × Nat × Nat × Nat)
  | o :: r, v :: vs => (n, o.1, o.2, v) :: enumOps (n + 1) r vs
  | _, _ => []

/-! ### the documented reading of the `chain` and `ops` outputs -/
def hexv (c : Char) : Nat := if c.isDigit then c.toNat - 48 else c.toNat - 87
def isHexChar (c : Char) : Bool := c.isDigit || ('a' ≤ c && c ≤ 'f')

/-- `0x` followed by at least one lower-case hexadecimal digit -/
def readHex0x : List Char → Option Nat
  | '0' :: 'x' :: ds =>
    if ds ≠ [] ∧ ds.all isHexChar then some (ds.foldl (fun a c => a * 16 + hexv c) 0) else none
  | _ => none

def skipSp (l : List Char) : List Char := l.dropWhile (· == ' ')

def mapOpt {α β} (f : α → Option β) : List α → Option (List β)
  | [] => some []
  | a :: r => match f a, mapOpt f r with
    | some b, some bs => some (b :: bs)
    | _, _ => none

/-- `<spaces>n: 0x…` ↦ (n, value) -/
def readChainLine (l : List Char) : Option (Nat × Nat) :=
  let l1 := skipSp l
  match l1.dropWhile Char.isDigit with
  | ':' :: ' ' :: h =>
    match P.Listing.readNat (l1.takeWhile Char.isDigit), readHex0x h with
    | some n, some v => some (n, v)
    | _, _ => none
  | _ => none

/-- the chain output: one line per element, every line newline-terminated -/
def readChain (s : List Char) : Option (List (Nat × Nat)) :=
  mapOpt readChainLine (P.Listing.splitAt '\n' s).dropLast

/-- `[<spaces>n] <spaces>i+j<spaces> 0x…` ↦ (n, i, j, value) -/
def readOpsLine (l : List Char) : Option (Nat × Nat × Nat × Nat) :=
  match l with
  | '[' :: r =>
    let r1 := skipSp r
    match r1.dropWhile Char.isDigit with
    | ']' :: ' ' :: r2 =>
      let r3 := skipSp r2
      match r3.dropWhile Char.isDigit with
      | '+' :: r4 =>
        match P.Listing.readNat (r1.takeWhile Char.isDigit), P.Listing.readNat (r3.takeWhile Char.isDigit),
          P.Listing.readNat (r4.takeWhile Char.isDigit), readHex0x (skipSp (r4.dropWhile Char.isDigit)) with
        | some n, some i, some j, some v => some (n, i, j, v)
        | _, _, _, _ => none
      | _ => none
    | _ => none
  | _ => none

def readOps (s : List Char) : Option (List (Nat × Nat × Nat × Nat)) :=
  mapOpt readOpsLine (P.Listing.splitAt '\n' s).dropLast

end AC.GenX
