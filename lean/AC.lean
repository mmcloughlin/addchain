import AC.Alloc
import AC.AllocBound
import AC.AllocSim
import AC.Argmin
import AC.Assemble
import AC.Basic
import AC.Binary
import AC.Bits
import AC.Build
import AC.CF
import AC.CFProof
import AC.CFTotal
import AC.CalcEval
import AC.Chain
import AC.ChainSet
import AC.Decompile
import AC.Deps
import AC.DictSum
import AC.Exec
import AC.Guards
import AC.Helpers
import AC.Heur
import AC.HeurSound
import AC.HeurTotal
import AC.Hybrid
import AC.HybridDisj
import AC.Listing
import AC.Literal
import AC.Merge
import AC.Metavars
import AC.Naming
import AC.OpsEq
import AC.Opt
import AC.Peg
import AC.Prim
import AC.RT
import AC.Runs
import AC.Script
import AC.Sem
import AC.Sliding
import AC.Strat
import AC.TwoPtr
import AC.Windows
import AC.YardProof
